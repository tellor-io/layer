import Mathlib.Tactic.Linarith
import LayerModel.Lemmas.Rewards
import LayerModel.Lemmas.Dec
import LayerModel.Lemmas.ListSum

namespace Layer.Rewards
open Layer

def amtSum (os : List Origin) : Int := (os.map (·.amount)).sum

/-- the pro-rata shares of a list of origins against a fixed recorded total `T`: each is less than one raw unit from
`net·amount_i / T` (`Dec.quo_ofInt_near`), so `T·Σshare_i` is within `n·T` of `net·Σamount_i` -/
theorem shareSum_bound (net T : Int) (hn : 0 ≤ net) (hT : 0 < T) (os : List Origin) (ha : ∀ o ∈ os, 0 ≤ o.amount) :
    shareSum net T os * T - net * amtSum os ≤ os.length * T ∧ net * amtSum os - shareSum net T os * T ≤ os.length * T := by
  obtain ⟨h1, h2⟩ := sum_scaled_within (fun o => Dec.quo (Dec.mul net (Dec.ofInt o.amount)) (Dec.ofInt T)) (·.amount)
      net T T T os fun o ho => by
    obtain ⟨b1, b2⟩ := Dec.quo_ofInt_near (Int.mul_nonneg hn (ha o ho)) hT
    rw [Dec.mul_ofInt]; constructor <;> linarith
  unfold shareSum amtSum; constructor <;> linarith

end Layer.Rewards
