/-!
Association lists as the models use them: a `List α` of records with a key field, looked up with
`find? (key · == a)`, updated by appending a record, by `filter (!(key · == a))` and by rewriting the record of a key.
The store guarantees unique keys; here that is the hypothesis `(l.map key).Nodup`.
-/
namespace Layer.Assoc

variable {α κ : Type} (key : α → κ)

/-- `fun y => if c y then h y else y` is how the models rewrite the records picked by `c`; with `h` it keeps every key -/
theorem key_update (c : α → Bool) {h : α → α} (hh : ∀ y, key (h y) = key y) (y : α) :
    key (if c y then h y else y) = key y := by
  split
  · exact hh y
  · rfl

theorem map_key_update (l : List α) (c : α → Bool) {h : α → α} (hh : ∀ y, key (h y) = key y) :
    (l.map fun y => if c y then h y else y).map key = l.map key := by
  rw [List.map_map]
  exact List.map_congr_left fun y _ => key_update key c hh y

theorem nodup_append_of_not_mem {l : List α} (hk : (l.map key).Nodup) {n : α} (hn : key n ∉ l.map key) :
    ((l ++ [n]).map key).Nodup := by
  rw [List.map_append, List.nodup_append]
  exact ⟨hk, by simp, fun a ha b hb => by simp at hb; subst hb; exact fun e => hn (e ▸ ha)⟩

theorem nodup_filter {l : List α} (hk : (l.map key).Nodup) (p : α → Bool) : ((l.filter p).map key).Nodup :=
  hk.sublist (List.filter_sublist.map _)

variable [BEq κ]

theorem find?_map (l : List α) {g : α → α} (hg : ∀ y, key (g y) = key y) (a : κ) :
    (l.map g).find? (key · == a) = (l.find? (key · == a)).map g := by
  rw [List.find?_map]
  exact congrArg (fun p => (l.find? p).map g) (funext fun y => by rw [Function.comp, hg])

variable [LawfulBEq κ]

theorem find?_eq_none_iff (l : List α) (a : κ) : l.find? (key · == a) = none ↔ a ∉ l.map key := by
  simp [List.find?_eq_none]

theorem find?_isSome_iff (l : List α) (a : κ) : (l.find? (key · == a)).isSome = true ↔ a ∈ l.map key := by
  simp [List.find?_isSome]

theorem find?_key {l : List α} {a : κ} {x : α} (h : l.find? (key · == a) = some x) : x ∈ l ∧ key x = a :=
  ⟨List.mem_of_find?_eq_some h, by simpa using List.find?_some h⟩

theorem find?_filter_ne (l : List α) {x a : κ} (h : x ≠ a) :
    (l.filter fun y => !(key y == x)).find? (key · == a) = l.find? (key · == a) := by
  rw [List.find?_filter]
  congr 1; funext y
  by_cases hy : key y = a
  · simp [hy, Ne.symm h]
  · simp [hy]

theorem find?_filter_self (l : List α) (a : κ) : (l.filter fun y => !(key y == a)).find? (key · == a) = none := by
  simp [List.find?_eq_none]

theorem find?_eq_some_of_mem : ∀ {l : List α}, (l.map key).Nodup → ∀ {x : α}, x ∈ l →
    l.find? (key · == key x) = some x
  | z :: zs, hk, x, hx => by
    obtain ⟨hz, hzs⟩ := List.nodup_cons.mp hk
    rcases List.mem_cons.mp hx with rfl | hx'
    · rw [List.find?_cons_of_pos (by exact beq_self_eq_true (key x))]
    · -- `x` is further down, so the head has another key
      have : (key z == key x) = false := beq_eq_false_iff_ne.mpr fun e => hz (e ▸ List.mem_map_of_mem hx')
      rw [List.find?_cons, this]
      exact find?_eq_some_of_mem hzs hx'

/-- rewriting the record with key `b` is seen by a lookup of `b` and of no other key -/
theorem find?_update (l : List α) (a b : κ) {h : α → α} (hh : ∀ y, key (h y) = key y) :
    (l.map fun y => if key y == b then h y else y).find? (key · == a) =
      (l.find? (key · == a)).map fun y => if a == b then h y else y := by
  rw [find?_map key l (key_update key _ hh)]
  exact Option.map_congr fun y hy => by rw [(find?_key key hy).2]

/-- with unique keys, at most one record has key `b` -/
theorem countP_key_le_one {l : List α} (hk : (l.map key).Nodup) (b : κ) : l.countP (key · == b) ≤ 1 := by
  have := List.nodup_iff_count.mp hk b
  rwa [List.count_eq_countP, List.countP_map] at this

/-- with unique keys, rewriting the record of one key changes any count by at most one -/
theorem countP_update_le {l : List α} (hk : (l.map key).Nodup) (b : κ) (h : α → α) (p : α → Bool) :
    (l.map fun y => if key y == b then h y else y).countP p ≤ l.countP p + 1 := by
  -- count the records with another key, which are not rewritten, and those with key `b`, of which there is at most one
  rw [List.countP_map, List.countP_eq_countP_filter_add l _ (key · == b), Nat.add_comm]
  refine Nat.add_le_add ?_ ?_
  · rw [List.countP_congr (q := p) fun y hy => by
      rw [Function.comp, if_neg (by simpa using (List.mem_filter.mp hy).2)]]
    exact List.filter_sublist.countP_le
  · exact Nat.le_trans List.countP_le_length (List.countP_eq_length_filter ▸ countP_key_le_one key hk b)

/-- with unique keys, the sum of the terms with key `a` is the term of the record found under `a`, if any -/
theorem sum_ite_key {l : List α} (hk : (l.map key).Nodup) (a : κ) (g : α → Int) :
    (l.map fun x => if key x == a then g x else 0).sum = ((l.find? (key · == a)).map g).getD 0 := by
  induction l with
  | nil => rfl
  | cons z zs ih =>
    obtain ⟨hz, hzs⟩ := List.nodup_cons.mp hk
    rw [List.map_cons, List.sum_cons, ih hzs]
    by_cases hza : key z = a
    · have : zs.find? (key · == a) = none := (find?_eq_none_iff key zs a).mpr (hza ▸ hz)
      simp [hza, this]
    · simp [hza]

end Layer.Assoc
