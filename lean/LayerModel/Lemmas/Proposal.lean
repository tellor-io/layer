import LayerModel.Chain.Proposal

namespace Layer.Proposal
open Layer

theorem toSlice_getD {α} (l : List α) : (toSlice l).getD [] = l := by
  unfold toSlice; cases l <;> rfl

/-- what it takes for a pair to be collected: the guard chain of `CheckInitialSignaturesFromLastCommit`, read off once -/
theorem mem_collectInit {env : Env} {votes : List Vote} {p : String × String} :
    p ∈ collectInit env votes ↔ env.hasEvm p.1 = false ∧
      ∃ v ∈ votes, v.commit = true ∧ v.operator = some p.1 ∧
        ∃ e, v.ext = some e ∧ 64 ≤ e.sigA.length ∧ 64 ≤ e.sigB.length ∧ env.recover e.sigA e.sigB = some p.2 := by
  rw [collectInit, List.mem_filterMap]
  constructor
  · rintro ⟨v, hv, hf⟩
    -- a vote that fails a guard contributes `none`
    cases hc : v.commit; · simp [hc] at hf
    cases he : v.ext; · simp [hc, he] at hf
    rename_i e
    cases hr : env.recover e.sigA e.sigB; · simp [hc, he, hr] at hf
    cases ho : v.operator; · simp [hc, he, hr, ho] at hf
    simp only [hc, he, hr, ho, Bool.not_true, Bool.false_eq_true, if_false, Option.ite_none_left_eq_some,
      Option.some.injEq] at hf
    obtain ⟨h0, h64, hne, rfl⟩ := hf
    exact ⟨by simpa using hne, v, hv, hc, ho, e, he, by omega, by omega, hr⟩
  · rintro ⟨hne, v, hv, hc, ho, e, he, ha, hb, hr⟩
    have h0 : e.sigA.length ≠ 0 := by omega
    have h64 : ¬(e.sigA.length < 64 ∨ e.sigB.length < 64) := by omega
    exact ⟨v, hv, by simp only [hc, he, hr, ho, hne, h0, h64, Bool.not_true, Bool.false_eq_true, if_false]⟩

/-- the registrations of an honest proposal are the collected pairs (both the empty and the non-empty shape) -/
theorem registrations_prepare (env : Env) (commit : List Vote) :
    registrations (prepare env commit) = collectInit env commit := by
  simp only [registrations, prepare, deriveInit]
  split
  next he => simp [List.isEmpty_iff.mp he]
  next => simpa only [List.unzip_eq_map, Option.getD_some] using List.zip_unzip (collectInit env commit)

theorem length_placeAtt (set : List String) (slots : List Bytes) (addr : String) (sig : Bytes) :
    (placeAtt set slots addr sig).length = slots.length :=
  List.length_mapIdx

theorem getElem?_placeAtt (set : List String) (slots : List Bytes) (addr : String) (sig : Bytes) (i : Nat) :
    (placeAtt set slots addr sig)[i]? = slots[i]?.map fun s => if set[i]? = some addr then sig else s :=
  List.getElem?_mapIdx

end Layer.Proposal
