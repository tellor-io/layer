import LayerModel.Chain.Aggregate
import LayerModel.Lemmas.Sort

namespace Layer.Agg

/-- total power as a natural number -/
def psum (rs : List Report) : Nat := (rs.map (·.power)).sum

/-- power of the reports whose numeric value is strictly below `a` / at most `a` -/
def powerBelow (rs : List Report) (a : Int) : Nat := psum (rs.filter (fun r => decide (val r < a)))
def powerUpTo (rs : List Report) (a : Int) : Nat := psum (rs.filter (fun r => decide (val r ≤ a)))

theorem i64_small {p : Nat} (h : p < 2^63) : i64 p = p := by
  unfold i64
  have : p % 2^64 = p := Nat.mod_eq_of_lt (by omega)
  simp [this, h]

theorem u64_small {n : Nat} (h : n < 2^63) : u64 (n : Int) = n := by
  unfold u64
  have : ((n : Int) % 2^64) = (n : Int) := Int.emod_eq_of_lt (by omega) (by omega)
  rw [this]; simp

theorem psum_cons (r : Report) (rs : List Report) : psum (r :: rs) = r.power + psum rs := by
  simp [psum]

theorem psum_append (a b : List Report) : psum (a ++ b) = psum a + psum b := by
  simp [psum]

theorem psum_perm {a b : List Report} (h : a.Perm b) : psum a = psum b := by
  unfold psum; exact (h.map _).sum_nat

theorem psum_filter_mono {p q : Report → Bool} (h : ∀ x, p x = true → q x = true) (rs : List Report) :
    psum (rs.filter p) ≤ psum (rs.filter q) := by
  induction rs with
  | nil => simp
  | cons r rs ih =>
    by_cases hp : p r
    · have hq := h r hp
      simp [List.filter, hp, hq, psum_cons]; omega
    · by_cases hq : q r <;> simp [List.filter, hp, hq, psum_cons] <;> omega

theorem psum_filter_le (p : Report → Bool) (rs : List Report) : psum (rs.filter p) ≤ psum rs := by
  have := psum_filter_mono (p := p) (q := fun _ => true) (fun _ _ => rfl) rs
  rwa [List.filter_eq_self.mpr fun _ _ => rfl] at this

theorem powerBelow_perm {a b : List Report} (h : a.Perm b) (x : Int) : powerBelow a x = powerBelow b x :=
  psum_perm (h.filter _)

theorem powerUpTo_perm {a b : List Report} (h : a.Perm b) (x : Int) : powerUpTo a x = powerUpTo b x :=
  psum_perm (h.filter _)

theorem sumI_cons (r : Report) (rs : List Report) : sumI (r :: rs) = i64 r.power + sumI rs := by
  simp [sumI]

/-- below 2^63 the `int64` sum is the sum -/
theorem sumI_eq_psum : ∀ {rs : List Report}, psum rs < 2^63 → sumI rs = (psum rs : Int)
  | [], _ => rfl
  | r :: rs, h => by
    rw [psum_cons] at h
    rw [sumI_cons, psum_cons, i64_small (Nat.lt_of_le_of_lt (Nat.le_add_right ..) h),
      sumI_eq_psum (Nat.lt_of_le_of_lt (Nat.le_add_left ..) h), Int.natCast_add]

/-- the scan on powers that stay below 2^63, where its `int64` arithmetic is exact: entered with the running
power `cum` still below half of `total` (the loop invariant) and enough power ahead to reach half, it stops at
the first report with which twice the running power reaches `total` -/
theorem pick_spec (total : Nat) : ∀ (s : List Report) (cum i : Nat), cum + psum s < 2^63 →
    2 * cum < total → total ≤ 2 * (cum + psum s) →
    ∃ pre r post, s = pre ++ r :: post ∧ pick total cum i s = some (i + pre.length, r) ∧
      2 * (cum + psum pre) < total ∧ total ≤ 2 * (cum + psum pre + r.power)
  | [], _, _, _, h, h' => absurd h' (Nat.not_le.mpr h)
  | x :: xs, cum, i, hs, h, h' => by
    rw [psum_cons, ← Nat.add_assoc] at hs h'
    simp only [pick]
    rw [i64_small (Nat.lt_of_le_of_lt (Nat.le_trans (Nat.le_add_left ..) (Nat.le_add_right ..)) hs),
      ← Int.natCast_add]
    split
    · exact ⟨[], x, xs, rfl, rfl, h, Int.ofNat_le.mp (by simpa using ‹_›)⟩
    · obtain ⟨pre, r, post, rfl, hp, hlt, hge⟩ :=
        pick_spec total xs (cum + x.power) (i + 1) hs (by omega) h'
      exact ⟨x :: pre, r, post, rfl, by rw [hp, List.length_cons, Nat.add_right_comm, Nat.add_assoc],
        by rwa [psum_cons, ← Nat.add_assoc], by rwa [psum_cons, ← Nat.add_assoc]⟩

theorem sortByVal_perm (rs : List Report) : (sortByVal rs).Perm rs := List.mergeSort_perm _ _

theorem sortByVal_sorted (rs : List Report) : (sortByVal rs).Pairwise (fun a b => val a ≤ val b) :=
  pairwise_mergeSort_key val rs

theorem powerUpTo_le_powerBelow (rs : List Report) {a b : Int} (h : a < b) : powerUpTo rs a ≤ powerBelow rs b :=
  psum_filter_mono (fun _ hx => decide_eq_true (Int.lt_of_le_of_lt (of_decide_eq_true hx) h)) rs

/-- a value with less than half of the power strictly below it is at most any value with at least half of
the power up to it -/
theorem le_of_half_split {rs : List Report} {a b : Int} (ha : 2 * powerBelow rs a < psum rs)
    (hb : psum rs ≤ 2 * powerUpTo rs b) : a ≤ b :=
  Int.not_lt.mp fun h => by have := powerUpTo_le_powerBelow rs h; omega

/-- where the value-sorted list is split at a report `r`: the reports with smaller values all stand before `r`,
and `r` and everything before it have values up to `val r` -/
theorem power_split {rs pre post : List Report} {r : Report} (hs : sortByVal rs = pre ++ r :: post) :
    powerBelow rs (val r) ≤ psum pre ∧ psum pre + r.power ≤ powerUpTo rs (val r) := by
  obtain ⟨-, hpost, hpre⟩ := List.pairwise_append.mp (hs ▸ sortByVal_sorted rs)
  have hpost : ∀ x ∈ r :: post, val r ≤ val x :=
    List.forall_mem_cons.mpr ⟨Int.le_refl _, (List.pairwise_cons.mp hpost).1⟩
  have hpre : ∀ x ∈ pre, val x ≤ val r := fun x hx => hpre x hx r (List.mem_cons_self ..)
  have hperm := sortByVal_perm rs
  rw [← powerBelow_perm hperm, ← powerUpTo_perm hperm, hs]
  unfold powerBelow powerUpTo
  constructor
  · rw [List.filter_append, List.filter_eq_nil_iff (l := r :: post) |>.mpr (by simpa using hpost),
      List.append_nil]
    exact psum_filter_le _ _
  · rw [List.filter_append, List.filter_eq_self (l := pre) |>.mpr (by simpa using hpre),
      List.filter_cons_of_pos (by simp), psum_append, psum_cons]
    omega

/-- Everything the scan decides: the aggregate is built from a report `r` of the value-sorted list such that
the reports with smaller values hold less than half of the power and those with values up to `val r` at
least half. -/
theorem median_spec (rs : List Report) (hparse : ∀ r ∈ rs, (parseHex (strip0x r.value)).isSome = true)
    (hpos : 0 < psum rs) (htot : psum rs < 2^63) :
    ∃ pre r post, sortByVal rs = pre ++ r :: post ∧
      weightedMedian rs = some { value := strip0x r.value, reporter := r.reporter, power := psum rs,
                                  index := pre.length, microHeight := r.block,
                                  reporters := (sortByVal rs).map toAggReporter } ∧
      2 * powerBelow rs (val r) < psum rs ∧ psum rs ≤ 2 * powerUpTo rs (val r) := by
  have hsum := psum_perm (sortByVal_perm rs)
  have htotal : sumI (sortByVal rs) = (psum rs : Int) := by rw [sumI_eq_psum (hsum ▸ htot), hsum]
  have hall : rs.all (fun r => (parseHex (strip0x r.value)).isSome) = true := by
    simpa [List.all_eq_true] using hparse
  obtain ⟨pre, r, post, hs, hp, hlt, hge⟩ :=
    pick_spec (psum rs) (sortByVal rs) 0 0 (by rwa [Nat.zero_add, hsum]) hpos
      (by rw [Nat.zero_add, hsum]; exact Nat.le_mul_of_pos_left _ Nat.two_pos)
  obtain ⟨hbelow, hupto⟩ := power_split hs
  refine ⟨pre, r, post, hs, ?_, by omega, by omega⟩
  unfold weightedMedian
  simp only [hall, if_true, htotal]
  rw [← Int.natCast_zero, hp, u64_small htot, Nat.zero_add]

/-! ### mode -/

/-- characterisation of the strict-`>` scan: the result is the FIRST key of maximal weight -/
theorem modeScan_first_max (w : String → Nat) : ∀ (ord : List String) (best : Nat × String),
    (modeScan w best ord = best ∧ ∀ u ∈ ord, w u ≤ best.1) ∨
    (∃ pre v post, ord = pre ++ v :: post ∧ modeScan w best ord = (w v, v) ∧ best.1 < w v ∧
        (∀ u ∈ pre, w u < w v) ∧ (∀ u ∈ post, w u ≤ w v))
  | [], best => Or.inl ⟨rfl, by simp⟩
  | x :: xs, best => by
    simp only [modeScan]
    split
    · -- `x` outweighs `best`: the scan goes on from `(w x, x)`, and `x` is the result unless a later key outweighs it
      rcases modeScan_first_max w xs (w x, x) with ⟨heq, hle⟩ | ⟨pre, v, post, rfl, hres, hlt, hpre, hpost⟩
      · exact Or.inr ⟨[], x, xs, rfl, heq, ‹_›, by simp, hle⟩
      · exact Or.inr ⟨x :: pre, v, post, rfl, hres, Nat.lt_trans ‹_› hlt,
          List.forall_mem_cons.mpr ⟨hlt, hpre⟩, hpost⟩
    · have hx : w x ≤ best.1 := Nat.not_lt.mp ‹_›
      rcases modeScan_first_max w xs best with ⟨heq, hle⟩ | ⟨pre, v, post, rfl, hres, hlt, hpre, hpost⟩
      · exact Or.inl ⟨heq, List.forall_mem_cons.mpr ⟨hx, hle⟩⟩
      · exact Or.inr ⟨x :: pre, v, post, rfl, hres, hlt,
          List.forall_mem_cons.mpr ⟨Nat.lt_of_le_of_lt hx hlt, hpre⟩, hpost⟩

/-- no key the scan visited outweighs the key it returns (the start pair `(0, "")` claims no more than its
key weighs) -/
theorem modeScan_max (w : String → Nat) (ord : List String) (best : Nat × String) (hb : best.1 ≤ w best.2) :
    ∀ u ∈ ord, w u ≤ w (modeScan w best ord).2 := by
  intro u hu
  rcases modeScan_first_max w ord best with ⟨heq, hle⟩ | ⟨pre, v, post, rfl, hres, -, hpre, hpost⟩
  · rw [heq]; exact Nat.le_trans (hle u hu) hb
  · rw [hres]
    rcases List.mem_append.mp hu with h | h
    · exact Nat.le_of_lt (hpre u h)
    · rcases List.mem_cons.mp h with rfl | h
      · exact Nat.le_refl _
      · exact hpost u h

end Layer.Agg
