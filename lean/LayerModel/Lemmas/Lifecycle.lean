import LayerModel.Chain.Lifecycle

namespace Layer.Lifecycle

theorem add_total (c : Counts) (ch n : Nat) : (c.add ch n).total = c.total + n := by
  unfold Counts.add Counts.total
  split <;> simp only [Nat.add_assoc, Nat.add_comm n]

theorem vote_eq_some {r r' : Round} {v : V} :
    vote r v = some r' ↔
    v.voter ∉ r.votes.map (·.voter) ∧ (v.user + v.reporter + v.holder ≠ 0 ∨ v.team = true) ∧
    r' = { votes := r.votes ++ [v], users := r.users.add v.choice v.user, reporters := r.reporters.add v.choice v.reporter,
           holders := r.holders.add v.choice v.holder } := by
  simp only [vote, Option.ite_none_left_eq_some, List.any_eq_true, beq_iff_eq, List.mem_map, Option.some.injEq,
    Decidable.not_and_iff_not_or_not, Bool.not_eq_true', Bool.not_eq_false, eq_comm (a := r'), ne_eq]

end Layer.Lifecycle
