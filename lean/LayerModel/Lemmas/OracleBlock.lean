import LayerModel.Chain.OracleBlock

namespace Layer.OracleBlock
open Layer

theorem current_isSome {c : Cycle} (h : c.list ≠ []) : (current c).isSome = true := by
  have hl := List.length_pos_iff.mpr h
  unfold current
  rw [isSome_getElem?]
  split <;> omega

theorem step_list_ne_nil (hasSpec : String → Bool) {c : Cycle} (h : c.list ≠ []) (op : Op) :
    (step hasSpec c op).list ≠ [] := by
  cases op with
  | rotate => simp only [step, rotate]; split <;> exact h
  | update l =>
    simp only [step, update]
    split
    · exact h
    · rename_i hc
      rintro (rfl : l = [])
      exact hc rfl

theorem ofHexChars_all_hex : ∀ {cs : List Char} {bs : Bytes}, Bytes.ofHexChars cs = some bs →
    ∀ c ∈ cs, (Agg.hexDigit? c).isSome = true
  | [], _, _ => by simp
  | [_], _, h => by cases h
  | a :: b :: rest, bs, h => by
    simp only [Bytes.ofHexChars, Option.bind_eq_bind, Option.bind_eq_some_iff] at h
    obtain ⟨x, ha, y, hb, r, hr, -⟩ := h
    simp only [List.mem_cons, forall_eq_or_imp, Agg.hexDigit?, ha, hb, Option.isSome_some, true_and]
    exact ofHexChars_all_hex hr

/-- a non-empty list of hex digits is a number: every digit extends the number read so far -/
theorem hexNat?_isSome {cs : List Char} (hne : cs ≠ []) (h : ∀ c ∈ cs, (Agg.hexDigit? c).isSome = true) :
    (Agg.hexNat? cs).isSome = true := by
  unfold Agg.hexNat?
  split
  · exact absurd rfl hne
  · refine List.foldlRecOn (motive := fun o : Option Nat => o.isSome = true) cs _ rfl fun o ho c hc => ?_
    obtain ⟨a, rfl⟩ := Option.isSome_iff_exists.mp ho
    obtain ⟨d, hd⟩ := Option.isSome_iff_exists.mp (h c hc)
    simp [hd]

/-- a non-empty string of hex digits parses: a hex digit is not a sign -/
theorem parseHex_isSome {s : String} (hne : s.toList ≠ []) (h : ∀ c ∈ s.toList, (Agg.hexDigit? c).isSome = true) :
    (Agg.parseHex s).isSome = true := by
  unfold Agg.parseHex
  split
  · rename_i heq; exact absurd (h '-' (by simp [heq])) (by decide)
  · rename_i heq; exact absurd (h '+' (by simp [heq])) (by decide)
  · simpa using hexNat?_isSome hne h

end Layer.OracleBlock
