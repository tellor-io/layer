import LayerModel.Chain.BridgeValset
import LayerModel.Lemmas.ListSum

/-! What the checkpoint proofs use of the bridge validator-set model: the order `vLe`, `currentSet`, the end blocker by
cases, staleness, and the contract's signature loop. -/
namespace Layer.Valset

theorem vLe_iff (a b : BVal) : vLe a b = true ↔ b.power < a.power ∨ (a.power = b.power ∧ a.addr ≤ b.addr) := by
  simp [vLe]

theorem vLe_total (a b : BVal) : (vLe a b || vLe b a) = true := by
  rw [Bool.or_eq_true, vLe_iff, vLe_iff]
  rcases Nat.lt_trichotomy a.power b.power with h | h | h
  · exact .inr (.inl h)
  · exact (String.le_total a.addr b.addr).imp (fun h' => .inr ⟨h, h'⟩) fun h' => .inr ⟨h.symm, h'⟩
  · exact .inl (.inl h)

theorem vLe_trans (a b c : BVal) (h1 : vLe a b = true) (h2 : vLe b c = true) : vLe a c = true := by
  rw [vLe_iff] at *
  rcases h1 with h1 | ⟨h1, h1'⟩ <;> rcases h2 with h2 | ⟨h2, h2'⟩
  · exact .inl (Nat.lt_trans h2 h1)
  · exact .inl (h2 ▸ h1)
  · exact .inl (h1 ▸ h2)
  · exact .inr ⟨h1.trans h2, String.le_trans h1' h2'⟩

theorem currentSet_eq_some {vals : List SVal} {s : Set} :
    currentSet vals = some s ↔ vals.filterMap toBVal ≠ [] ∧ (vals.filterMap toBVal).mergeSort vLe = s := by
  simp [currentSet]

theorem delta_nonneg (b c : Set) : 0 ≤ delta b c :=
  sum_map_nonneg fun _ _ => by unfold absI; split <;> omega

/-! ### the end blocker, case by case -/

variable {s : St} {vals : List SVal} {t : Nat}

theorem endBlock_of_no_set (hc : currentSet vals = none) : endBlock s vals t = some s := by
  simp only [endBlock, hc]

theorem endBlock_of_unsaved {cur : Set} (hc : currentSet vals = some cur) (hs : s.saved = none) :
    endBlock s vals t = some (newCkpt s cur t) := by
  simp only [endBlock, hc, hs]

/-- with a saved set the two `if`s of `CompareAndSetBridgeValidators` together keep the state exactly when the saved set is
fresh and either equal to the current one or less than 5 % away from it -/
theorem endBlock_of_saved {cur last : Set} (hc : currentSet vals = some cur) (hs : s.saved = some last) :
    endBlock s vals t = (stale s t).map fun st =>
      if st = true ∨ (last ≠ cur ∧ powerDiff last cur ≥ 50000) then newCkpt s cur t else s := by
  simp only [endBlock, hc, hs]
  cases stale s t with
  | none => rfl
  | some st =>
    simp only [ge_iff_le, ← Int.not_lt]
    cases st <;> by_cases h1 : last = cur <;> by_cases h2 : powerDiff last cur < 50000 <;> simp [h1, h2]

/-- the end blocker either leaves the state alone or records a checkpoint for the current set -/
theorem endBlock_cases {s' : St} (h : endBlock s vals t = some s') :
    s' = s ∨ ∃ cur, currentSet vals = some cur ∧ s' = newCkpt s cur t := by
  cases hc : currentSet vals with
  | none => rw [endBlock_of_no_set hc] at h; exact .inl (Option.some.inj h).symm
  | some cur =>
    cases hs : s.saved with
    | none => rw [endBlock_of_unsaved hc hs] at h; exact .inr ⟨cur, rfl, (Option.some.inj h).symm⟩
    | some last =>
      rw [endBlock_of_saved hc hs] at h
      obtain ⟨st, -, rfl⟩ := Option.map_eq_some_iff.mp h
      split
      · exact .inr ⟨cur, rfl, rfl⟩
      · exact .inl rfl

/-! ### staleness is defined once a checkpoint with a positive timestamp exists -/

/-- `foldl max 0` is core's `max?` of the list with a leading 0 -/
theorem le_tsBefore {k : Ckpt} {b : Int} (hk : k ∈ s.ckpts) (hb : (k.ts : Int) < b) : k.ts ≤ tsBefore s b :=
  List.le_max?_getD_of_mem (l := 0 :: _) (k := 0)
    (.tail _ (List.mem_map.mpr ⟨k, List.mem_filter.mpr ⟨hk, by simpa using hb⟩, rfl⟩))

theorem stale_isSome {k : Ckpt} (hk : k ∈ s.ckpts) (hpos : 0 < k.ts) (hle : k.ts ≤ t) : (stale s t).isSome = true := by
  have := le_tsBefore (b := (t : Int) + 1000) hk (by omega)
  have hne : tsBefore s ((t : Int) + 1000) ≠ 0 := by omega
  simp [stale, hne]

/-! ### the contract's update rule -/

/-- the signature loop accepts when no present signature is invalid and the power of the valid ones, added to what has been
counted so far, reaches the threshold (the early exit of the loop changes nothing) -/
theorem checkSigs_go_ok {thr : Nat} {vals : Set} {sigs : List (Option Bool)} {cum : Nat}
    (hv : ∀ sg ∈ sigs, sg ≠ some false)
    (h : thr ≤ ((vals.zip sigs).filter (fun p => p.2 == some true)).foldl (fun acc p => acc + p.1.power) cum) :
    checkSigs.go thr vals sigs cum = true := by
  induction vals generalizing sigs cum with
  | nil => exact decide_eq_true h
  | cons v vs ih =>
    cases sigs with
    | nil => exact decide_eq_true h
    | cons sg sgs =>
      have hv' : ∀ x ∈ sgs, x ≠ some false := fun x hx => hv x (.tail _ hx)
      match sg, hv _ (.head _) with
      | none, _ => exact ih hv' h
      | some true, _ =>
        show (if cum + v.power ≥ thr then true else checkSigs.go thr vs sgs (cum + v.power)) = true
        split
        · rfl
        · exact ih hv' h

theorem updateValidatorSet_eq_some {H : Hash} {c c' : CState} {newSetHash : String} {newThr newTs : Nat} {cur : Set}
    {sigs : List (Option Bool)} :
    updateValidatorSet H c newSetHash newThr newTs cur sigs = some c' ↔
      cur.length = sigs.length ∧ c.ts ≤ newTs ∧ newThr ≠ 0 ∧ H.cp c.threshold c.ts (H.set cur) = c.checkpoint ∧
      checkSigs cur sigs c.threshold = true ∧
      c' = { checkpoint := H.cp newThr newTs newSetHash, threshold := newThr, ts := newTs } := by
  simp [updateValidatorSet, Option.ite_none_left_eq_some, eq_comm (a := c')]

end Layer.Valset
