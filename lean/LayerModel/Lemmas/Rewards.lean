import LayerModel.Chain.Rewards
import LayerModel.Lemmas.Dec

namespace Layer.Rewards
open Layer Layer.Agg

def amountSum (cs : List (RepInfo × Int)) : Int := (cs.map (·.2)).sum

/-- the amounts of the payout loop telescope: together they are `reward − dist` -/
theorem payLoop_sum (total : Nat) (reward : Int) : ∀ (rs : List RepInfo) (dist : Int), rs ≠ [] →
    amountSum (payLoop total reward dist rs) = Dec.ofInt reward - dist
  | [], _, h => absurd rfl h
  | [r], dist, _ => by simp [payLoop, amountSum]; omega
  | r :: r' :: rs, dist, _ => by
    have ih := payLoop_sum total reward (r' :: rs) (dist + calculateRewardAmount r.power 1 total reward) (by simp)
    simp only [payLoop, amountSum, List.map_cons, List.sum_cons] at *
    omega

theorem shareSum_def (net total : Int) (os : List Origin) : True := trivial

/-- Σ of the pro-rata shares of a list of origins -/
def shareSum (net : Int) (total : Int) (os : List Origin) : Int :=
  (os.map (fun o => Dec.quo (Dec.mul net (Dec.ofInt o.amount)) (Dec.ofInt total))).sum

/-- the loop's accounting: the credits made plus the commission still owed afterwards are the shares plus the commission
owed before (`paid = false`: owed) -/
theorem divvyLoop_sum (reporter : String) (commission net total : Int) : ∀ (os : List Origin) (paid : Bool),
    creditSum (divvyLoop reporter commission net total paid os).1 +
        (if (divvyLoop reporter commission net total paid os).2 then 0 else commission) =
      shareSum net total os + (if paid then 0 else commission)
  | [], paid => by cases paid <;> simp [divvyLoop, creditSum, shareSum]
  | o :: os, paid => by
    have ih := divvyLoop_sum reporter commission net total os (paid || (o.delegator == reporter && !paid))
    simp only [divvyLoop, creditSum, shareSum, List.map_cons, List.sum_cons] at ih ⊢
    rcases Bool.eq_false_or_eq_true (o.delegator == reporter && !paid) with own | own
    · -- the reporter's first origin: the commission was owed (`paid = false`) and is credited here
      obtain rfl : paid = false := by simpa using (Bool.and_eq_true_iff.mp own).2
      simp only [own, Bool.or_true, if_true, Bool.false_eq_true, if_false] at ih ⊢; omega
    · -- not the reporter's, or the commission is credited already: what is owed stays as it is
      simp only [own, Bool.or_false, Bool.false_eq_true, if_false] at ih ⊢; omega

theorem share_nonneg {net amount total : Int} (hn : 0 ≤ net) (ha : 0 ≤ amount) (ht : 0 < total) :
    0 ≤ Dec.quo (Dec.mul net (Dec.ofInt amount)) (Dec.ofInt total) := by
  rw [Dec.mul_ofInt]
  exact Dec.quo_nonneg (Int.mul_nonneg hn ha) (Dec.ofInt_nonneg (Int.le_of_lt ht))

/-- a commission at a rate in [0, 1] lies between nothing and the whole reward -/
theorem commission_bounds {rate reward : Int} (hr0 : 0 ≤ rate) (hr1 : rate ≤ Dec.prec) (hrew : 0 ≤ reward) :
    0 ≤ Dec.mul reward rate ∧ Dec.mul reward rate ≤ reward :=
  ⟨Dec.chopRound_nonneg (Int.mul_nonneg hrew hr0), Dec.chopRound_le (Int.mul_le_mul_of_nonneg_left hr1 hrew)⟩

theorem divvyLoop_nonneg (reporter : String) {commission net total : Int}
    (hc : 0 ≤ commission) (hn : 0 ≤ net) (ht : 0 < total) :
    ∀ (os : List Origin) (paid : Bool), (∀ o ∈ os, 0 ≤ o.amount) →
      ∀ c ∈ (divvyLoop reporter commission net total paid os).1, 0 ≤ c.2
  | [], _, _, c, h => by simp [divvyLoop] at h
  | o :: os, paid, ha, c, h => by
    simp only [divvyLoop, List.mem_cons] at h
    have hs := share_nonneg hn (ha o (by simp)) ht
    rcases h with rfl | h
    · simp only []; split <;> omega
    · exact divvyLoop_nonneg reporter hc hn ht os _ (fun x hx => ha x (by simp [hx])) c h

theorem collectOne_ne_nil (qid : String) (acc : List RepInfo × Nat) (r : AggReporter) :
    (collectOne qid acc r).1 ≠ [] := by
  obtain ⟨m, tot⟩ := acc
  unfold collectOne
  cases m
  · simp
  · simp only []; split <;> simp

/-- `collect` returns a non-empty reporter list as soon as one aggregate lists a reporter -/
theorem collect_ne_nil (aggs : List (String × List AggReporter)) (hne : ∃ a ∈ aggs, a.2 ≠ []) :
    (collect aggs).1 ≠ [] := by
  obtain ⟨a, ha, hr⟩ := hne
  obtain ⟨l₁, l₂, rfl⟩ := List.append_of_mem ha
  obtain ⟨r, rs, hrs⟩ := List.exists_cons_of_ne_nil hr
  -- the list is non-empty after `r`, and every later step is again a `collectOne`
  have keep (q : String) (rs : List AggReporter) (acc : List RepInfo × Nat) (h : acc.1 ≠ []) :
      (rs.foldl (collectOne q) acc).1 ≠ [] :=
    List.foldlRecOn (motive := fun b : List RepInfo × Nat => b.1 ≠ []) rs _ h fun _ _ r _ => collectOne_ne_nil q _ r
  simp only [collect, List.foldl_append, List.foldl_cons, hrs]
  exact List.foldlRecOn (motive := fun b : List RepInfo × Nat => b.1 ≠ []) l₂ _
    (keep _ rs _ (collectOne_ne_nil _ _ _)) fun b hb a _ => keep a.1 a.2 b hb

end Layer.Rewards
