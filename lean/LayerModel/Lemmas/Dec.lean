import LayerModel.Base.Dec

/-!
What the proofs use of the `LegacyDec` model (`Base/Dec.lean`), stated once.

`chopRound` rounds to the nearest multiple of `prec` (`chopRound_err`); since results are integers, that alone decides
every comparison of a rounded value with a whole number (`chopRound_le`, `le_chopRound`), which is all that the
non-negativity, exactness and monotonicity arguments of the rounding-dust proofs need.  The other lemmas say when an
operation is exact (a factor or a divisor that is a whole number) and what truncation and `quo` are in terms of floor
division on non-negative arguments.
-/
namespace Layer.Dec

theorem prec_pos : 0 < prec := by decide

theorem chopRoundNonneg_err (d : Int) :
    2 * (chopRoundNonneg d * prec - d) ≤ prec ∧ 2 * (d - chopRoundNonneg d * prec) ≤ prec := by
  unfold chopRoundNonneg prec half
  simp only []
  repeat' split
  all_goals omega

/-- rounding error of `chopRound`: at most half a unit, on either side, for every `d` -/
theorem chopRound_err (d : Int) : 2 * (chopRound d * prec - d) ≤ prec ∧ 2 * (d - chopRound d * prec) ≤ prec := by
  unfold chopRound
  split
  · have := chopRoundNonneg_err (-d); unfold prec at *; omega
  · exact chopRoundNonneg_err d

theorem chopRound_le {x k : Int} (h : x ≤ k * prec) : chopRound x ≤ k := by
  have := (chopRound_err x).1; unfold prec at *; omega

theorem le_chopRound {x k : Int} (h : k * prec ≤ x) : k ≤ chopRound x := by
  have := (chopRound_err x).2; unfold prec at *; omega

theorem chopRound_nonneg {d : Int} (h : 0 ≤ d) : 0 ≤ chopRound d := le_chopRound (by omega)

theorem chopRound_mul_prec (k : Int) : chopRound (k * prec) = k :=
  Int.le_antisymm (chopRound_le (Int.le_refl _)) (le_chopRound (Int.le_refl _))

/-- multiplying by a whole number is exact -/
theorem mul_ofInt (a n : Int) : mul a (ofInt n) = a * n := by
  unfold mul ofInt; rw [← Int.mul_assoc]; exact chopRound_mul_prec _

/-- dividing a multiple of the divisor is exact -/
theorem quo_mul_cancel (k : Int) {b : Int} (hb : b ≠ 0) : quo (k * b) b = ofInt k := by
  unfold quo ofInt
  rw [Int.mul_right_comm k b, Int.mul_right_comm (k * prec) b, Int.mul_tdiv_cancel _ hb, chopRound_mul_prec]

theorem truncateInt_ofInt (n : Int) : truncateInt (ofInt n) = n := Int.mul_tdiv_cancel n (by decide)

theorem truncateInt_eq_ediv {x : Int} (h : 0 ≤ x) : truncateInt x = x / prec := Int.tdiv_eq_ediv_of_nonneg h

/-- truncation of a non-negative raw amount: `0 ≤ x − ⌊x/P⌋·P < P` -/
theorem truncateInt_bounds {x : Int} (hx : 0 ≤ x) :
    0 ≤ truncateInt x ∧ truncateInt x * prec ≤ x ∧ x < truncateInt x * prec + prec := by
  rw [truncateInt_eq_ediv hx]; unfold prec; omega

/-- `quo` of a non-negative raw value, written with floor division -/
theorem quo_eq_ediv {a : Int} (ha : 0 ≤ a) (b : Int) : quo a b = chopRound (a * prec * prec / b) := by
  have hP := prec_pos
  unfold quo
  rw [Int.tdiv_eq_ediv_of_nonneg (Int.mul_nonneg (Int.mul_nonneg ha (Int.le_of_lt hP)) (Int.le_of_lt hP))]

theorem quo_nonneg {a b : Int} (ha : 0 ≤ a) (hb : 0 ≤ b) : 0 ≤ quo a b :=
  have hP := Int.le_of_lt prec_pos
  chopRound_nonneg (Int.tdiv_nonneg (Int.mul_nonneg (Int.mul_nonneg ha hP) hP) hb)

theorem ofInt_nonneg {n : Int} (h : 0 ≤ n) : 0 ≤ ofInt n := Int.mul_nonneg h (Int.le_of_lt prec_pos)

/-- a quotient of a non-negative raw value against a raw `k`: decided by cross-multiplication -/
theorem quo_le {a b k : Int} (ha : 0 ≤ a) (hb : 0 < b) (h : a * prec ≤ k * b) : quo a b ≤ k := by
  rw [quo_eq_ediv ha]
  refine chopRound_le (Int.ediv_le_of_le_mul hb ?_)
  rw [Int.mul_right_comm k]
  exact Int.mul_le_mul_of_nonneg_right h (Int.le_of_lt prec_pos)

theorem le_quo {a b k : Int} (ha : 0 ≤ a) (hb : 0 < b) (h : k * b ≤ a * prec) : k ≤ quo a b := by
  rw [quo_eq_ediv ha]
  refine le_chopRound (Int.le_ediv_of_mul_le hb ?_)
  rw [Int.mul_right_comm k]
  exact Int.mul_le_mul_of_nonneg_right h (Int.le_of_lt prec_pos)

/-- … and for a whole-number divisor `T`, by comparing with `k·T` -/
theorem quo_ofInt_le {x T k : Int} (hx : 0 ≤ x) (hT : 0 < T) (h : x ≤ k * T) : quo x (ofInt T) ≤ k :=
  quo_le hx (Int.mul_pos hT prec_pos) (by
    rw [ofInt, ← Int.mul_assoc]; exact Int.mul_le_mul_of_nonneg_right h (Int.le_of_lt prec_pos))

theorem le_quo_ofInt {x T k : Int} (hx : 0 ≤ x) (hT : 0 < T) (h : k * T ≤ x) : k ≤ quo x (ofInt T) :=
  le_quo hx (Int.mul_pos hT prec_pos) (by
    rw [ofInt, ← Int.mul_assoc]; exact Int.mul_le_mul_of_nonneg_right h (Int.le_of_lt prec_pos))

/-- `x.Quo(T)` is less than one raw unit away from `x/T`: were `x ≤ (r − 1)·T`, the quotient `r` would be at most `r − 1` -/
theorem quo_ofInt_near {x T : Int} (hx : 0 ≤ x) (hT : 0 < T) :
    (quo x (ofInt T) - 1) * T < x ∧ x < (quo x (ofInt T) + 1) * T :=
  ⟨Int.lt_of_not_ge fun h => by have := quo_ofInt_le hx hT h; omega,
   Int.lt_of_not_ge fun h => by have := le_quo_ofInt hx hT h; omega⟩

/-- `LegacyDec` division of two whole numbers followed by `TruncateInt` is integer division (divisors up to 10^18):
with `a = k·b + r` the quotient lies between `k·P` and `(k+1)·P − 1`, the latter because `r·P ≤ (b − 1)·P ≤ b·P − b` -/
theorem truncateInt_quo_ofInt (a b : Int) (ha : 0 ≤ a) (hb : 0 < b) (hbP : b ≤ prec) :
    truncateInt (quo (ofInt a) (ofInt b)) = a / b := by
  have hA := ofInt_nonneg ha
  have hdiv := Int.ediv_mul_add_emod a b
  have hr0 := Int.emod_nonneg a (Int.ne_of_gt hb)
  have hr1 := Int.emod_lt_of_pos a hb
  have lo : ofInt (a / b) ≤ quo (ofInt a) (ofInt b) := le_quo_ofInt hA hb (by
    unfold ofInt; rw [Int.mul_right_comm]; unfold prec; omega)
  have hi : quo (ofInt a) (ofInt b) ≤ ofInt (a / b + 1) - 1 := quo_ofInt_le hA hb (by
    unfold ofInt; rw [Int.sub_mul, Int.mul_right_comm, Int.add_mul]; unfold prec at *; omega)
  rw [truncateInt_eq_ediv (Int.le_trans (ofInt_nonneg (Int.ediv_nonneg ha (Int.le_of_lt hb))) lo)]
  unfold ofInt prec at *; omega

theorem truncateInt_sub_ofInt {x n : Int} (hn : 0 ≤ n) (hx : ofInt n ≤ x) :
    truncateInt (x - ofInt n) = truncateInt x - n := by
  unfold ofInt at hx
  rw [truncateInt_eq_ediv (by unfold ofInt prec at *; omega), truncateInt_eq_ediv (by unfold prec at *; omega)]
  unfold ofInt prec at *; omega

end Layer.Dec
