/-! `List.mergeSort` by a key that carries a decidable linear (pre)order: the result is sorted by the key,
and does not depend on the order of the input when the key determines the element (core only). -/
namespace Layer

theorem pairwise_mergeSort_key {α β} [LE β] [DecidableLE β] [Std.IsLinearPreorder β] (key : α → β)
    (l : List α) :
    (l.mergeSort fun a b => decide (key a ≤ key b)).Pairwise fun a b => key a ≤ key b := by
  have := List.pairwise_mergeSort (le := fun a b => decide (key a ≤ key b))
    (fun _ _ _ h₁ h₂ => decide_eq_true (Std.le_trans (of_decide_eq_true h₁) (of_decide_eq_true h₂)))
    (fun a b => by simpa using Std.le_total (a := key a) (b := key b)) l
  simpa using this

/-- two lists sorted by the key that are permutations of each other are equal -/
theorem mergeSort_key_eq_of_perm {α β} [LE β] [DecidableLE β] [Std.IsLinearOrder β] (key : α → β)
    {l₁ l₂ : List α} (hp : l₁.Perm l₂) (hkey : ∀ a ∈ l₁, ∀ b ∈ l₁, key a = key b → a = b) :
    (l₁.mergeSort fun a b => decide (key a ≤ key b)) = l₂.mergeSort fun a b => decide (key a ≤ key b) := by
  have p₁ := List.mergeSort_perm l₁ fun a b => decide (key a ≤ key b)
  have p₂ := List.mergeSort_perm l₂ fun a b => decide (key a ≤ key b)
  refine List.Perm.eq_of_pairwise (le := fun a b => key a ≤ key b) (fun a b ha hb h₁ h₂ => ?_)
    (pairwise_mergeSort_key key l₁) (pairwise_mergeSort_key key l₂) (p₁.trans (hp.trans p₂.symm))
  exact hkey a (p₁.subset ha) b (hp.symm.subset (p₂.subset hb)) (Std.le_antisymm h₁ h₂)

end Layer
