import LayerModel.Chain.Unbond
import LayerModel.Lemmas.Dec

/-! What `Unbond` hands out for a number of shares, against whole tokens: `Dec.quo_le` / `Dec.le_quo` and the truncation. -/
namespace Layer.Unbond
open Layer

/-- shares worth at most `k` raw units, `k` below `a + 1` tokens, give at most `a` (`k = a·P`: worth at most `a` tokens;
`k = a·P + P/2`: the case of one share unit more, where the excess is rounded away) -/
theorem unbond_le (v : Val) (s a k : Int) (hs : 0 ≤ s) (hT : 0 ≤ v.tokens) (hS : 0 < v.shares)
    (hk : k < (a + 1) * Dec.prec) (h : s * v.tokens * Dec.prec ≤ k * v.shares) : unbondTokens v s ≤ a := by
  have hx := Int.mul_nonneg hs hT
  have := Dec.quo_le hx hS h
  obtain ⟨_, t1, _⟩ := Dec.truncateInt_bounds (Dec.quo_nonneg hx (Int.le_of_lt hS))
  unfold unbondTokens tokensFromShares Dec.prec at *; omega

/-- shares worth at least `a` tokens give at least `a` -/
theorem le_unbond (v : Val) (s a : Int) (hs : 0 ≤ s) (hT : 0 ≤ v.tokens) (hS : 0 < v.shares)
    (h : a * v.shares ≤ s * v.tokens) : a ≤ unbondTokens v s := by
  have hx := Int.mul_nonneg hs hT
  have := Dec.le_quo (k := Dec.ofInt a) hx hS (by
    rw [Dec.ofInt, Int.mul_right_comm]; exact Int.mul_le_mul_of_nonneg_right h (Int.le_of_lt Dec.prec_pos))
  obtain ⟨_, _, t2⟩ := Dec.truncateInt_bounds (Dec.quo_nonneg hx (Int.le_of_lt hS))
  unfold unbondTokens tokensFromShares Dec.ofInt Dec.prec at *; omega

/-- `SharesFromTokens` rounds the exact share amount `S·a/T` down -/
theorem sharesFromTokens_spec (v : Val) (amt : Int) (hT : 0 < v.tokens) (hnum : 0 ≤ v.shares * amt) :
    0 ≤ sharesFromTokens v amt ∧ sharesFromTokens v amt * v.tokens ≤ v.shares * amt ∧
      v.shares * amt < (sharesFromTokens v amt + 1) * v.tokens := by
  unfold sharesFromTokens
  rw [Int.tdiv_eq_ediv_of_nonneg hnum]
  exact ⟨Int.ediv_nonneg hnum (Int.le_of_lt hT), Int.ediv_mul_le _ (Int.ne_of_gt hT), Int.lt_ediv_add_one_mul_self _ hT⟩

end Layer.Unbond
