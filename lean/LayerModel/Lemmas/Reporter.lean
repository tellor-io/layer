import LayerModel.Chain.Reporter
import LayerModel.Lemmas.Assoc
import LayerModel.Lemmas.ListSum

/-!
Facts about `Layer.Reporter` that the C10 properties rest on: when each message is accepted and what state it leaves
(`…_eq_some`), the lookups `findSel`/`findRep` as key-unique association lists, the selector count of a reporter after the
table gains or rewrites a record, and the two stake strategies as sums over validator/delegation pairs.
-/
namespace Layer.Reporter

variable {s s' : S} {a r : String} {now : Int}

/-! ### lookups -/

theorem findSel_eq_none : findSel s a = none ↔ a ∉ s.sels.map (·.selector) :=
  Assoc.find?_eq_none_iff _ _ _

theorem findSel_isSome : (findSel s a).isSome = true ↔ a ∈ s.sels.map (·.selector) :=
  Assoc.find?_isSome_iff _ _ _

theorem findRep_isSome : (findRep s r).isSome = true ↔ r ∈ s.reps.map (·.name) :=
  Assoc.find?_isSome_iff _ _ _

theorem findRep_name_mem {rep : Rep} (h : findRep s r = some rep) : r ∈ s.reps.map (·.name) :=
  findRep_isSome.mp (by rw [h]; rfl)

theorem findSel_of_mem (hk : (s.sels.map (·.selector)).Nodup) {x : Sel} (hx : x ∈ s.sels) :
    findSel s x.selector = some x :=
  Assoc.find?_eq_some_of_mem _ hk hx

/-! ### messages: accepted exactly when the guards hold, and then the state is the updated one -/

theorem createReporter_eq_some {m : Int} :
    createReporter s a m = some s' ↔ s.params.minTrb ≤ bondedOf s a ∧ s.params.minTrb ≤ m ∧ findSel s a = none ∧
      s' = { s with reps := s.reps ++ [⟨a, false, 0, m⟩], sels := s.sels ++ [⟨a, a, 0, (delsOf s a).length⟩] } := by
  simp only [createReporter, Option.ite_none_left_eq_some, Option.some.injEq, Int.not_lt, Option.not_isSome_iff_eq_none,
    eq_comm (b := s'), gt_iff_lt]

theorem selectReporter_eq_some :
    selectReporter s a r = some s' ↔ findSel s a = none ∧ ∃ rep, findRep s r = some rep ∧
      (selectorsOf s r).length < s.params.maxSelectors ∧ rep.minTokens ≤ bondedOf s a ∧
      s' = { s with sels := s.sels ++ [⟨a, r, 0, (delsOf s a).length⟩] } := by
  unfold selectReporter
  cases findRep s r <;> simp [eq_comm (b := s')]

theorem switchReporter_eq_some {rp : String → Bool} :
    switchReporter s now rp a r = some s' ↔ ∃ x rep, findSel s a = some x ∧ x.reporter ≠ a ∧ findRep s r = some rep ∧
      (selectorsOf s r).length < s.params.maxSelectors ∧ rep.minTokens ≤ bondedOf s a ∧
      s' = { s with sels := s.sels.map fun y => if y.selector == a then
        { y with reporter := r, lockedUntil := if rp x.reporter then now + s.params.unbondingMs else x.lockedUntil } else y } := by
  unfold switchReporter
  cases findSel s a <;> cases findRep s r <;> simp [eq_comm (b := s')]

theorem removeSelector_eq_some :
    removeSelector s a = some s' ↔ ∃ x rep, findSel s a = some x ∧ findRep s x.reporter = some rep ∧
      bondedOf s a < rep.minTokens ∧ s.params.maxSelectors < (selectorsOf s x.reporter).length ∧
      s' = { s with sels := s.sels.filter fun y => !(y.selector == a) } := by
  unfold removeSelector
  cases findSel s a with
  | none => simp
  | some x => dsimp only; cases hr : findRep s x.reporter <;> simp [hr, eq_comm (b := s')]

theorem jail_eq_some {d : Int} :
    jail s now r d = some s' ↔ ∃ rep, findRep s r = some rep ∧ rep.jailed = false ∧
      s' = { s with reps := s.reps.map fun y =>
        if y.name == r then { y with jailed := true, jailedUntil := now + d * 1000 } else y } := by
  unfold jail
  cases findRep s r <;> simp [eq_comm (b := s')]

theorem unjail_eq_some :
    unjail s now r = some s' ↔ ∃ rep, findRep s r = some rep ∧ rep.jailed = true ∧ rep.jailedUntil ≤ now ∧
      s' = { s with reps := s.reps.map fun y => if y.name == r then { y with jailed := false } else y } := by
  unfold unjail
  cases findRep s r <;> simp [eq_comm (b := s')]

/-- jailing and releasing touch only the jail fields of the reporter table -/
theorem jail_frame {d : Int} (h : jail s now r d = some s') :
    s'.sels = s.sels ∧ s'.params = s.params ∧ s'.reps.map (·.name) = s.reps.map (·.name) := by
  obtain ⟨_, _, _, rfl⟩ := jail_eq_some.mp h
  exact ⟨rfl, rfl, Assoc.map_key_update _ _ _ fun _ => rfl⟩

theorem unjail_frame (h : unjail s now r = some s') :
    s'.sels = s.sels ∧ s'.params = s.params ∧ s'.reps.map (·.name) = s.reps.map (·.name) := by
  obtain ⟨_, _, _, _, rfl⟩ := unjail_eq_some.mp h
  exact ⟨rfl, rfl, Assoc.map_key_update _ _ _ fun _ => rfl⟩

/-! ### the selection table after a new record, and after a switch -/

theorem length_selectorsOf_append {n : Sel} (hs : s'.sels = s.sels ++ [n]) (q : String) :
    (selectorsOf s' q).length = (selectorsOf s q).length + if q = n.reporter then 1 else 0 := by
  simp only [selectorsOf, hs, List.filter_append, List.length_append]
  by_cases h : q = n.reporter <;> simp [h, Ne.symm]

theorem findSel_append {n x : Sel} (hs : s'.sels = s.sels ++ [n]) (h : findSel s a = some x) :
    findSel s' a = some x := by
  unfold findSel at h ⊢
  rw [hs, List.find?_append, h]; rfl

section switch
variable {x : String} {lock : Int}
  (hs : s'.sels = s.sels.map fun y => if y.selector == x then { y with reporter := r, lockedUntil := lock } else y)
include hs

theorem selectors_switch : s'.sels.map (·.selector) = s.sels.map (·.selector) := by
  rw [hs]; exact Assoc.map_key_update _ _ _ fun _ => rfl

theorem findSel_switch : findSel s' a =
    (findSel s a).map fun y => if a == x then { y with reporter := r, lockedUntil := lock } else y := by
  unfold findSel; rw [hs]; exact Assoc.find?_update Sel.selector _ a x fun _ => rfl

/-- a switch rewrites the one record of `x`: `r` gains at most that selector, nobody else gains any -/
theorem length_selectorsOf_switch_le (hk : (s.sels.map (·.selector)).Nodup) (q : String) :
    (selectorsOf s' q).length ≤ (selectorsOf s q).length + if q = r then 1 else 0 := by
  simp only [selectorsOf, hs, ← List.countP_eq_length_filter]
  split
  · exact Assoc.countP_update_le Sel.selector hk x _ _
  · next hq =>
    rw [List.countP_map]
    refine List.countP_mono_left fun y _ hy => ?_
    simp only [Function.comp] at hy
    split at hy
    · exact absurd (eq_of_beq hy).symm hq
    · exact hy

end switch

/-! ### the two iteration strategies as sums over (validator, delegation) pairs -/

theorem termA_eq_sum (f : Val → Int → Int) {vals : List Val} (hv : (vals.map (·.name)).Nodup) (d : Del) :
    termA f vals d =
      (vals.map fun v => if v.name == d.validator then (if v.bonded then f v d.shares else 0) else 0).sum := by
  rw [Assoc.sum_ite_key Val.name hv, termA, findVal]
  cases vals.find? _ <;> rfl

theorem termB_eq_sum (f : Val → Int → Int) {dsel : List Del} (hd : (dsel.map (·.validator)).Nodup) (v : Val) :
    termB f dsel v =
      (dsel.map fun d => if v.name == d.validator then (if v.bonded then f v d.shares else 0) else 0).sum := by
  -- the same summand as in `termA_eq_sum`, so that the two double sums differ in the order of summation only
  simp only [BEq.comm (a := v.name)]
  rw [Assoc.sum_ite_key Del.validator hd, termB, findDel]
  cases v.bonded <;> cases dsel.find? _ <;> rfl

end Layer.Reporter
