import LayerModel.Chain.Ante

namespace Layer.Ante

def hasInc : List Msg → Bool
  | [] => false
  | .inc _ :: _ => true
  | _ :: ms => hasInc ms

def hasUndel : List Msg → Bool
  | [] => false
  | .undel _ :: _ => true
  | _ :: ms => hasUndel ms

/-- every staking message carries a strictly positive amount -/
def amountsPos : List Msg → Prop
  | [] => True
  | .inc a :: ms => 0 < a ∧ amountsPos ms
  | .undel a :: ms => 0 < a ∧ amountsPos ms
  | .other :: ms => amountsPos ms

/-- what a passed loop guarantees for the rest of the transaction: each running total, once it has been compared (a message of
its kind is still to come, or it is within its bound already), stays within the bound to the end -/
theorem loop_bounds (base bonded : Int) :
    ∀ (ms : List Msg) (i d : Int), loop base bonded i d ms = true → amountsPos ms →
      (hasInc ms = true ∨ bonded + i ≤ upper base → bonded + i + sumInc ms ≤ upper base) ∧
      (hasUndel ms = true ∨ bonded + d ≥ lower base → bonded + d - sumUndel ms ≥ lower base)
  | [], _, _, _, _ => by simp [hasInc, hasUndel, sumInc, sumUndel]
  | .other :: ms, i, d, h, hp => by
      simpa [hasInc, hasUndel, sumInc, sumUndel] using loop_bounds base bonded ms i d (by simpa [loop, msgAmount] using h) hp
  | .inc a :: ms, i, d, h, hp => by
      obtain ⟨ha, hp'⟩ := hp
      simp only [loop, msgAmount, show ¬ a < 0 by omega, if_false] at h
      split at h
      · cases h
      · have ih := loop_bounds base bonded ms (i + a) d h hp'
        exact ⟨fun _ => by have := ih.1 (Or.inr (by omega)); simp only [sumInc]; omega,
          fun hu => by simpa [hasUndel, sumUndel] using ih.2 (by simpa [hasUndel] using hu)⟩
  | .undel a :: ms, i, d, h, hp => by
      obtain ⟨ha, hp'⟩ := hp
      simp only [loop, msgAmount, show -a < 0 by omega, if_true] at h
      split at h
      · cases h
      · have ih := loop_bounds base bonded ms i (d + -a) h hp'
        exact ⟨fun hi => by simpa [hasInc, sumInc] using ih.1 (by simpa [hasInc] using hi),
          fun _ => by have := ih.2 (Or.inr (by omega)); simp only [sumUndel]; omega⟩

end Layer.Ante
