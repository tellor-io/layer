import Mathlib.Tactic.Linarith
import LayerModel.Chain.FeeStake
import LayerModel.Lemmas.Dec
import LayerModel.Lemmas.ListSum

/-! Helper lemmas for the fee-from-stake model (`Layer.FeeStake`): the inner loop, and the bounds on what one selector gives. -/
namespace Layer.FeeStake
open Layer

theorem trunc_ofInt (n : Int) : Dec.truncateInt (Dec.ofInt n) = n := Dec.truncateInt_ofInt n

theorem selTokens_nonneg {s : Selector} (h : ∀ d ∈ s.dels, 0 ≤ d.tokens) : 0 ≤ selTokens s := sum_map_nonneg h

theorem totalTokens_nonneg {l : List Selector} (h : ∀ s ∈ l, ∀ d ∈ s.dels, 0 ≤ d.tokens) : 0 ≤ totalTokens l :=
  sum_map_nonneg fun s hs => selTokens_nonneg (h s hs)

theorem share_nonneg {selTok total fee : Int} (h1 : 0 ≤ selTok) (h2 : 0 ≤ total) (h3 : 0 ≤ fee) : 0 ≤ share selTok total fee := by
  unfold share
  rw [Dec.mul_ofInt]
  exact Int.mul_nonneg (Dec.quo_nonneg (Dec.ofInt_nonneg h1) (Dec.ofInt_nonneg h2)) h3

/-- one round of the loop.  In the second branch something is left to take (`rest' > 0`), so the code's test `rest' = 0`
never fires there. -/
theorem takeFrom_cons (who : String) (d : Deleg) (ds : List Deleg) (rest : Int) :
    takeFrom who (d :: ds) rest =
      if rest ≤ Dec.ofInt d.tokens then [⟨who, d.val, Dec.truncateInt rest, Dec.truncateInt rest⟩]
      else ⟨who, d.val, d.tokens, d.tokens⟩ :: takeFrom who ds (rest - Dec.ofInt d.tokens) := by
  by_cases h : rest ≤ Dec.ofInt d.tokens
  · simp [takeFrom, h]
  · have : rest - Dec.ofInt d.tokens ≠ 0 := by omega
    simp [takeFrom, h, this]

/-- every record entry states exactly what was unbonded at that delegation -/
theorem takeFrom_recorded (who : String) (ds : List Deleg) (rest : Int) :
    ∀ o ∈ takeFrom who ds rest, o.recorded = o.taken := by
  induction ds generalizing rest with
  | nil => simp [takeFrom]
  | cons d ds ih =>
    rw [takeFrom_cons]
    split
    · simp
    · simpa using ih _

/-- nothing is taken from a delegation beyond what it holds, and never a negative amount -/
theorem takeFrom_within (who : String) (ds : List Deleg) (rest : Int) (hr : 0 ≤ rest) (hd : ∀ d ∈ ds, 0 ≤ d.tokens) :
    ∀ o ∈ takeFrom who ds rest, 0 ≤ o.taken ∧ o.del = who ∧ ∃ d ∈ ds, d.val = o.val ∧ o.taken ≤ d.tokens := by
  induction ds generalizing rest with
  | nil => simp [takeFrom]
  | cons d ds ih =>
    obtain ⟨t0, tlo, _⟩ := Dec.truncateInt_bounds hr
    intro o ho
    rw [takeFrom_cons] at ho
    split at ho
    · rename_i hge
      obtain rfl : o = _ := by simpa using ho
      refine ⟨t0, rfl, d, by simp, rfl, ?_⟩
      show Dec.truncateInt rest ≤ d.tokens
      unfold Dec.ofInt Dec.prec at *; omega
    · rcases List.mem_cons.mp ho with rfl | ho
      · exact ⟨hd d (by simp), rfl, d, by simp, rfl, Int.le_refl _⟩
      · obtain ⟨a, b, d', hd', c⟩ := ih _ (by omega) (fun x hx => hd x (by simp [hx])) o ho
        exact ⟨a, b, d', by simp [hd'], c⟩

/-- what one selector gives: its share cut to whole loya when its delegations cover the share, everything it has otherwise -/
theorem takeFrom_sum (who : String) (ds : List Deleg) (rest : Int) (hr : 0 ≤ rest) (hd : ∀ d ∈ ds, 0 ≤ d.tokens) :
    moved (takeFrom who ds rest) =
      if rest ≤ Dec.ofInt ((ds.map (·.tokens)).sum) then Dec.truncateInt rest else (ds.map (·.tokens)).sum := by
  induction ds generalizing rest with
  | nil =>
    simp only [takeFrom, moved, List.map_nil, List.sum_nil]
    split
    · obtain rfl : rest = 0 := by unfold Dec.ofInt at *; omega
      rfl
    · rfl
  | cons d ds ih =>
    have hd0 : 0 ≤ d.tokens := hd d (by simp)
    have hds : ∀ x ∈ ds, 0 ≤ x.tokens := fun x hx => hd x (by simp [hx])
    have hsum : 0 ≤ (ds.map (·.tokens)).sum := sum_map_nonneg hds
    rw [takeFrom_cons]
    simp only [List.map_cons, List.sum_cons]
    have e : Dec.ofInt (d.tokens + (ds.map (·.tokens)).sum) = Dec.ofInt d.tokens + Dec.ofInt ((ds.map (·.tokens)).sum) :=
      Int.add_mul ..
    split
    · rw [if_pos (by have := Dec.ofInt_nonneg hsum; omega)]; simp [moved]
    · simp only [moved, List.map_cons, List.sum_cons] at ih ⊢
      rw [ih _ (by omega) hds, e]
      split
      · rw [if_pos (by omega), Dec.truncateInt_sub_ofInt hd0 (by omega)]; omega
      · rw [if_neg (by omega)]

/-- what one selector gives, against its exact proportional part `t·f/T`: less than two loya below, less than one above.
The rounded ratio `ρ = t/T` is off by at most `1/T` in units of `P·T` (`Dec.quo_int_bound`), the multiplication by the fee is
exact, the truncation loses less than one loya; and `f < P` keeps the first error below one loya. -/
theorem sel_bounds (t T f : Int) (ht : 0 ≤ t) (hT : 0 < T) (hf : 0 ≤ f) (hfP : f < Dec.prec) (hfT : f ≤ T) :
    let m := if share t T f ≤ Dec.ofInt t then Dec.truncateInt (share t T f) else t
    t * f - 2 * T < m * T ∧ m * T < t * f + T := by
  have hs0 := share_nonneg ht (Int.le_of_lt hT) hf
  obtain ⟨r1, r2⟩ := Dec.quo_ofInt_near (Dec.ofInt_nonneg ht) hT
  unfold share at hs0 ⊢
  rw [Dec.mul_ofInt] at hs0 ⊢
  generalize Dec.quo (Dec.ofInt t) (Dec.ofInt T) = ρ at *
  have r1f := mul_le_mul_of_nonneg_right (Int.le_of_lt r1) hf
  have r2f := mul_le_mul_of_nonneg_right (Int.le_of_lt r2) hf
  have hfPT := mul_lt_mul_of_pos_right hfP hT
  intro m
  by_cases hc : ρ * f ≤ Dec.ofInt t
  · obtain ⟨_, m1, m2⟩ := Dec.truncateInt_bounds hs0
    have m1T := mul_le_mul_of_nonneg_right m1 (Int.le_of_lt hT)
    have m2T := mul_lt_mul_of_pos_right m2 hT
    simp only [m, if_pos hc]
    unfold Dec.ofInt Dec.prec at *
    constructor <;> linarith
  · have hcT := mul_lt_mul_of_pos_right (Int.lt_of_not_ge hc) hT
    have := mul_le_mul_of_nonneg_left hfT ht
    simp only [m, if_neg hc]
    unfold Dec.ofInt Dec.prec at *
    constructor <;> linarith

theorem feeFromStake_eq_some {sels : List Selector} {fee : Int} {os : List Origin} :
    feeFromStake sels fee = some os ↔ fee ≤ totalTokens sels ∧
      os = sels.flatMap fun s => takeFrom s.addr s.dels (share (selTokens s) (totalTokens sels) fee) := by
  unfold feeFromStake
  simp only []
  split
  · rename_i h; unfold Dec.ofInt Dec.prec at h; simp; omega
  · rename_i h; unfold Dec.ofInt Dec.prec at h; simp [eq_comm]; omega

theorem moved_flatMap (l : List Selector) (g : Selector → List Origin) :
    moved (l.flatMap g) = (l.map (fun s => moved (g s))).sum := by
  induction l with
  | nil => simp [moved]
  | cons x xs ih =>
    simp only [List.flatMap_cons, List.map_cons, List.sum_cons]
    rw [← ih]
    simp [moved, List.sum_append]

end Layer.FeeStake
