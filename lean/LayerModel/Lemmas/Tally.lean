import LayerModel.Chain.Tally

namespace Layer.Tally
open Layer

theorem addGroup_ratio (acc : Acc) (c : Counts) : (addGroup acc c).ratio = acc.ratio := by
  unfold addGroup; split <;> rfl

/-- `pick` records one of the three quorum results exactly when it is told there is a quorum -/
theorem pick_quorum_iff (s a i : Int) (q : Bool) :
    (pick s a i q = .support ∨ pick s a i q = .against ∨ pick s a i q = .invalid) ↔ q = true := by
  unfold pick
  -- every branch of `pick` is `if q then r else r'` with `r` a quorum result and `r'` not
  cases q <;> simp only [Bool.false_eq_true, if_false, if_true] <;> split <;> (try split) <;> simp

/-- the quorum share of the team, of the users if any voted, and of the reporters -/
def quorumShare (x : Input) : Int :=
  (teamAcc x.team).ratio + (if x.users.sum > 0 then ratio x.totalTips x.users.sum else 0) + ratio x.totalPower x.reporters.sum

/-- `tally` as its decisions — quorum without the token holders, quorum with them, the period over, voters or none —
whatever the sums handed to `pick` are -/
theorem tally_eq (x : Input) : ∃ s a i s' a' i',
    tally x =
      if quorumShare x ≥ quorumLine then .tallied (pick s a i true) true
      else if quorumShare x + ratio x.supply x.holders.sum ≥ quorumLine then .tallied (pick s' a' i' true) true
      else if x.periodEnded then
        if !x.hasVoters then .tallied .nqInvalid x.disputeEnded else .tallied (pick s' a' i' false) x.disputeEnded
      else .stillVoting := by
  refine ⟨?_, ?_, ?_, ?_, ?_, ?_, ?_⟩
  rotate_left 6
  -- the sums are read off the unfolded definition
  simp only [tally, addGroup_ratio, quorumShare]
  rfl

end Layer.Tally
