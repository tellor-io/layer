import LayerModel.Chain.Authz

/-! What a handled message can be and do (`handle_some`), and `step` in terms of the handler. -/
namespace Layer.Authz

theorem lookup_append_of_some {l : List (String × String)} {t v : String} (h : lookup l t = some v)
    (l' : List (String × String)) : lookup (l ++ l') t = some v := by
  obtain ⟨p, hp, rfl⟩ := Option.map_eq_some_iff.mp h
  simp [lookup, List.find?_append, hp]

/-- the handler read backwards: an accepted message is privileged and names the authority (and then the team address
stays), or it is an `UpdateTeam` naming the current team address, a `RegisterSpec` for a type without a spec, or any other
message, which changes nothing -/
theorem handle_some {gov : String} {g g' : Gov} {m : Msg} (h : handle gov g m = some g') :
    (m.privileged = true ∧ m.signer = gov ∧ g'.team = g.team) ∨
    (∃ n, m = .updateTeam g.team n ∧ g' = { g with team := n }) ∨
    (∃ r t sp, m = .registerSpec r t sp ∧ lookup g.specs t = none ∧ g' = { g with specs := g.specs ++ [(t, sp)] }) ∨
    (∃ s, m = .other s ∧ g' = g) := by
  cases m <;>
    simp only [handle, Option.ite_none_left_eq_some, Option.some.injEq, Decidable.not_not,
      Option.not_isSome_iff_eq_none] at h
  case updateTeam c n =>
    obtain ⟨rfl, rfl⟩ := h
    exact .inr (.inl ⟨n, rfl, rfl⟩)
  case registerSpec r t sp => exact .inr (.inr (.inl ⟨r, t, sp, rfl, h.1, h.2.symm⟩))
  case other s => exact .inr (.inr (.inr ⟨s, rfl, h.symm⟩))
  -- the five privileged messages: the authority guard comes first, and no branch assigns `team`
  case updateParams | updateSnapshotLimit =>
    obtain ⟨ha, rfl⟩ := h
    exact .inl ⟨rfl, ha, rfl⟩
  case updateCyclelist | updateDataSpec | mintInit =>
    obtain ⟨ha, -, rfl⟩ := h
    exact .inl ⟨rfl, ha, rfl⟩

/-- a transaction is executed only when its signer is the declared one and the handler accepts the message -/
theorem step_cases (gov : String) (g : Gov) (s : String) (m : Msg) :
    step gov g s m = (g, false) ∨ s = m.signer ∧ ∃ g', handle gov g m = some g' ∧ step gov g s m = (g', true) := by
  unfold step
  split
  · exact .inl rfl
  next hs =>
    cases handle gov g m with
    | none => exact .inl rfl
    | some g' => exact .inr ⟨Decidable.not_not.mp hs, g', rfl, rfl⟩

end Layer.Authz
