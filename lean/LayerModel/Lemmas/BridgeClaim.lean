import LayerModel.Chain.BridgeClaim

namespace Layer.BridgeClaim

theorem ite_error_eq_ok {ε α : Type} {c : Prop} [Decidable c] {e : ε} {r : Except ε α} {v : α} :
    (if c then .error e else r) = .ok v ↔ ¬ c ∧ r = .ok v := by
  by_cases hc : c <;> simp [hc]

/-- without a tip the payout `⟨A, 0, A⟩` is `⟨A, T, A - T⟩` as well, so both branches give one condition -/
theorem payout_eq_ok {A T : Nat} {c c' : List Nat} {p : Payout} :
    (if 0 < T then if A < T then Except.error Err.panic else .ok (c, (⟨A, T, A - T⟩ : Payout)) else .ok (c, ⟨A, 0, A⟩)) =
      Except.ok (c', p) ↔ T ≤ A ∧ c' = c ∧ p = ⟨A, T, A - T⟩ := by
  rcases Nat.eq_zero_or_pos T with rfl | hT
  · simp [eq_comm (a := c'), eq_comm (a := p)]
  · simp [hT, ite_error_eq_ok, eq_comm (a := c'), eq_comm (a := p)]

theorem claim_eq_ok {claimed : List Nat} {x : ClaimIn} {c' : List Nat} {p : Payout} :
    claim claimed x = .ok (c', p) ↔
    ∃ agg thr d, x.agg = some agg ∧ agg.flagged = false ∧ x.depositId ∉ claimed ∧ x.threshold = some thr ∧
      thr ≤ agg.power ∧ twelveHoursNs ≤ x.nowNs - (agg.tsMs : Int) * 1000000 ∧ x.decoded = some d ∧
      d.recipientOk = true ∧ d.tip / 1000000000000 ≤ d.amount / 1000000000000 ∧ c' = x.depositId :: claimed ∧
      p = ⟨d.amount / 1000000000000, d.tip / 1000000000000, d.amount / 1000000000000 - d.tip / 1000000000000⟩ := by
  obtain ⟨id, agg, thr, now, dec⟩ := x
  cases agg with
  | none => simp [claim]
  | some agg =>
  cases thr with
  | none => simp [claim, ite_error_eq_ok]
  | some thr =>
  cases dec with
  | none => simp [claim, ite_error_eq_ok]
  | some d =>
  -- left: every guard contributes its negation, the `Int` amounts are casts of naturals;
  -- right: the witnesses can only be the inputs themselves
  simp only [claim, ite_error_eq_ok, Bool.not_eq_true, Bool.not_eq_true', Bool.not_eq_false, List.contains_iff_mem,
    Nat.not_lt, Int.not_lt, gt_iff_lt, Int.natCast_pos, Int.ofNat_lt, Int.toNat_natCast, Int.toNat_sub, payout_eq_ok,
    Option.some.injEq, exists_and_left, exists_eq_left']

theorem claim_ok_claimed {claimed : List Nat} {x : ClaimIn} {c' : List Nat} {p : Payout}
    (h : claim claimed x = .ok (c', p)) : x.depositId ∉ claimed ∧ c' = x.depositId :: claimed := by
  obtain ⟨_, _, _, _, _, hn, _, _, _, _, _, _, hc, _⟩ := claim_eq_ok.mp h
  exact ⟨hn, hc⟩

theorem claimBatch_cons_eq_ok {claimed : List Nat} {x : ClaimIn} {xs : List ClaimIn} {c' : List Nat}
    {ps : List Payout} :
    claimBatch claimed (x :: xs) = .ok (c', ps) ↔
    ∃ c₁ p ps', claim claimed x = .ok (c₁, p) ∧ claimBatch c₁ xs = .ok (c', ps') ∧ ps = p :: ps' := by
  rw [claimBatch]
  constructor
  · intro h
    split at h
    · cases h
    · rename_i c₁ p hc
      split at h
      · cases h
      · rename_i ps' hb
        cases h
        exact ⟨c₁, p, ps', hc, hb, rfl⟩
  · rintro ⟨c₁, p, ps', hc, hb, rfl⟩
    simp only [hc, hb]

/-- a successful batch puts exactly its ids, all new and pairwise distinct, in front of the claimed ones -/
theorem claimBatch_ok : ∀ {batch : List ClaimIn} {claimed c' : List Nat} {ps : List Payout},
    claimBatch claimed batch = .ok (c', ps) →
    c' = (batch.map (·.depositId)).reverse ++ claimed ∧ (batch.map (·.depositId)).Nodup ∧ ∀ x ∈ batch, x.depositId ∉ claimed
  | [], _, _, _, h => by cases h; simp
  | x :: xs, claimed, c', ps, h => by
    obtain ⟨c₁, p, ps', hc, hb, -⟩ := claimBatch_cons_eq_ok.mp h
    obtain ⟨hn, rfl⟩ := claim_ok_claimed hc
    -- the rest of the batch is claimed against `x.depositId :: claimed`
    obtain ⟨rfl, hnd, hnew⟩ := claimBatch_ok hb
    simp only [List.mem_cons, not_or] at hnew
    refine ⟨by simp, List.nodup_cons.mpr ⟨fun hm => ?_, hnd⟩, fun y hy => ?_⟩
    · obtain ⟨y, hy, e⟩ := List.mem_map.mp hm
      exact (hnew y hy).1 e
    · rcases List.mem_cons.mp hy with rfl | hy
      · exact hn
      · exact (hnew y hy).2

end Layer.BridgeClaim
