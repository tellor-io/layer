import LayerModel.Daemon.PriceCache
import LayerModel.Lemmas.Sort

/-! The even branch of `Median[V]` never leaves the type: every intermediate value is in range, so each wrap
is the identity (`wi_of_range`, `wu_of_range`), and what is left is an identity about halves. -/
namespace Layer.Median

theorem wi_of_range {n : Int} (h : -9223372036854775808 ≤ n ∧ n < 9223372036854775808) : wi n = n := by
  unfold wi
  simp only []
  split <;> omega

/-- read back as an integer, which is how `midU64` uses every inner wrap -/
theorem wu_of_range {n : Int} (h : 0 ≤ n ∧ n < 18446744073709551616) : (wu n : Int) = n := by
  unfold wu; rw [Int.emod_eq_of_lt h.1 h.2, Int.toNat_of_nonneg h.1]

theorem half_up (a : Int) : a / 2 + a % 2 = (a + 1) / 2 := by omega

theorem sub_half (x y : Int) : y - (y - x) / 2 = (x + y + 1) / 2 := by omega

/-- Go's `s/2 + s%2` (both truncating) is half of `s` rounded away from zero -/
theorem tdiv_add_tmod_two (x y : Int) :
    Int.tdiv (x + y) 2 + Int.tmod (x + y) 2 = meanAwayFromZero x y := by
  unfold meanAwayFromZero
  split
  · rw [Int.tdiv_eq_ediv_of_nonneg ‹_›, Int.tmod_eq_emod_of_nonneg ‹_›, half_up]
  · obtain ⟨t, ht, h0⟩ : ∃ t, x + y = -t ∧ 0 ≤ t := ⟨-(x + y), by omega⟩
    rw [ht, Int.neg_tdiv, Int.neg_tmod, Int.tdiv_eq_ediv_of_nonneg h0, Int.tmod_eq_emod_of_nonneg h0,
      ← Int.neg_add, half_up, Int.neg_neg]

theorem mean_of_nonneg {x y : Int} (h : 0 ≤ x + y) : meanAwayFromZero x y = y - (y - x) / 2 := by
  unfold meanAwayFromZero; rw [if_pos h, sub_half]

theorem mean_of_neg {x y : Int} (h : x + y < 0) : meanAwayFromZero x y = x + (y - x) / 2 := by
  unfold meanAwayFromZero; rw [if_neg (by omega)]; omega

theorem mean_between {x y : Int} (h : x ≤ y) : x ≤ meanAwayFromZero x y ∧ meanAwayFromZero x y ≤ y := by
  unfold meanAwayFromZero
  split <;> omega

/-- **uint64**: for `x ≤ y < 2^64` the even branch returns `⌈(x+y)/2⌉`; every intermediate value
stays inside the type (the wrapped computation equals the ideal one). -/
theorem midU64_spec (x y : Nat) (hxy : x ≤ y) (hy : y < 18446744073709551616) :
    midU64 x y = (x + y + 1) / 2 := by
  apply Int.ofNat_inj.mp
  -- the result fits, so the last wrap of either branch is the identity
  have hwm : (wu (((x : Int) + y + 1) / 2) : Int) = ((x + y + 1) / 2 : Nat) := by
    rw [wu_of_range (by omega)]; omega
  unfold midU64
  split
  · -- `x = 0`: the sum fits
    simp only [wu_of_range (n := x + y) (by omega), half_up, hwm]
  · -- `0 < x ≤ y`: the difference fits; the third branch of the source cannot be reached
    rw [if_pos (by omega), wu_of_range (n := y - x) (by omega), sub_half, hwm]

theorem sortNat_perm (xs : List Nat) : (sortNat xs).Perm xs := List.mergeSort_perm _ _

theorem sortNat_sorted (xs : List Nat) : (sortNat xs).Pairwise (· ≤ ·) := pairwise_mergeSort_key id xs

/-- sorting erases the input order -/
theorem sortNat_eq_of_perm {xs ys : List Nat} (h : xs.Perm ys) : sortNat xs = sortNat ys :=
  mergeSort_key_eq_of_perm id h fun _ _ _ _ h => h

end Layer.Median
