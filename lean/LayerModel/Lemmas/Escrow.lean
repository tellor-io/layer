import LayerModel.Chain.Escrow
import LayerModel.Lemmas.ListSum

namespace Layer.Escrow
open Layer

theorem total_split (qs : List (String × Int)) (q : String) :
    total qs = amountOf qs q + total (qs.filter (fun e => !(e.1 == q))) :=
  sum_map_filter_split (fun e : String × Int => e.2) (fun e => e.1 == q) qs

theorem creditTotal_split (cs : List (String × Int)) (sel : String) :
    creditTotal cs = creditOf cs sel + creditTotal (cs.filter (fun e => !(e.1 == sel))) :=
  total_split cs sel

theorem creditOf_nonneg (cs : List (String × Int)) (sel : String) (h : ∀ c ∈ cs, 0 ≤ c.2) : 0 ≤ creditOf cs sel :=
  sum_map_nonneg fun c hc => h c (List.mem_filter.mp hc).1

theorem creditOf_le_total (cs : List (String × Int)) (sel : String) (h : ∀ c ∈ cs, 0 ≤ c.2) :
    creditOf cs sel ≤ creditTotal cs := by
  have := creditTotal_split cs sel
  have : 0 ≤ creditTotal (cs.filter (fun e => !(e.1 == sel))) := sum_map_nonneg fun c hc => h c (List.mem_filter.mp hc).1
  omega

end Layer.Escrow
