import LayerModel.Chain.Oracle
import LayerModel.Lemmas.Assoc

namespace Layer.Oracle
open Layer

theorem setReport_key_unique (rs : List Rep) (r : Rep) :
    ((setReport rs r).filter (fun x => x.qid == r.qid && x.reporter == r.reporter && x.metaId == r.metaId)) = [r] := by
  unfold setReport
  rw [List.filter_append, List.filter_filter, List.filter_eq_nil_iff.mpr (by simp)]
  simp

theorem setReport_others (rs : List Rep) (r x : Rep)
    (hk : (x.qid == r.qid && x.reporter == r.reporter && x.metaId == r.metaId) = false) :
    x ∈ setReport rs r ↔ x ∈ rs := by
  have hne : x ≠ r := by rintro rfl; simp at hk
  simp only [setReport, List.mem_append, List.mem_filter, List.mem_singleton, hk, hne, Bool.not_false, and_true, or_false]

theorem setValue_eq_some {s : S} {h : Nat} {q : Query} {kind : Kind} {spec : Spec} {ri : RepIn} {pw : Nat} {c : Bool}
    {s' : S} :
    setValue s h q kind spec ri pw c = some s' ↔
    kind ≠ .nospec ∧ kind ≠ .garbage ∧ ri.valueOk = true ∧
    s' = { s with queries := setQuery s.queries { q with hasRev := true },
                  reports := setReport s.reports ⟨q.qid, ri.reporter, q.id, ri.value, pw, h, c, spec.method⟩ } := by
  simp only [setValue, Option.ite_none_left_eq_some, Bool.or_eq_true, beq_iff_eq, not_or, Bool.not_eq_true',
    Bool.not_eq_false, Option.some.injEq, and_assoc, eq_comm (a := s')]

/-- whatever `depositReveal` does to the round first, an accepted report is stored by `setValue` -/
theorem setValue_of_depositReveal {s : S} {h : Nat} {q : Query} {kind : Kind} {spec : Spec} {ri : RepIn} {pw : Nat} {s' : S}
    (hs : depositReveal s h q kind spec ri pw = some s') : ∃ s₁ q₁ c, setValue s₁ h q₁ kind spec ri pw c = some s' := by
  simp only [depositReveal, Option.ite_none_left_eq_some] at hs
  exact ⟨_, _, _, hs.2⟩

/-- what every accepted report has met: a sufficient stake, a reportable kind, `setValue`'s own guards in some state of
the round, and — a bridge deposit apart — a current round that is tipped or in the cycle and still open -/
theorem submit_some {s : S} {h : Nat} {qid : String} {kind : Kind} {spec : Spec} {ri : RepIn} {s' : S}
    (hs : submit s h qid kind spec ri = some s') :
    ∃ stake, ri.stake = some stake ∧ ri.minStake ≤ stake ∧ kind ≠ .withdraw ∧ kind ≠ .garbage ∧
      (∃ s₁ q₁ c, setValue s₁ h q₁ kind spec ri (stake / 1000000).toNat c = some s') ∧
      (kind ≠ .deposit → ∃ q, currentQuery s.queries qid = some q ∧ (q.amount ≠ 0 ∨ q.cycle = true) ∧ h ≤ q.exp) := by
  cases hst : ri.stake with
  | none => simp [submit, hst] at hs
  | some stake =>
  cases hq : currentQuery s.queries qid with
  | none =>
    simp only [submit, hst, hq, Option.ite_none_left_eq_some, Bool.or_eq_true, beq_iff_eq, not_or, Int.not_lt,
      bne_iff_ne, ne_eq, Decidable.not_not] at hs
    exact ⟨stake, rfl, hs.2.1, hs.1.1, hs.1.2, setValue_of_depositReveal hs.2.2.2, fun hd => absurd hs.2.2.1 hd⟩
  | some q =>
    simp only [submit, hst, hq, Option.ite_none_left_eq_some, Bool.or_eq_true, beq_iff_eq, not_or, Int.not_lt] at hs
    refine ⟨stake, rfl, hs.2.1, hs.1.1, hs.1.2, ?_⟩
    by_cases hd : kind = .deposit
    · exact ⟨setValue_of_depositReveal (by simpa only [if_pos hd] using hs.2.2), fun h => absurd hd h⟩
    · have hr := hs.2.2
      simp only [if_neg hd, Option.ite_none_left_eq_some, Nat.not_lt, Bool.not_eq_true', Decidable.not_and_iff_not_or_not,
        Bool.not_eq_false, ← ne_eq] at hr
      exact ⟨⟨_, _, _, hr.2.2⟩, fun _ => ⟨q, rfl, hr.1, hr.2.1⟩⟩

theorem aggregateOne_some {s : S} {h ts : Nat} {q : Query} {s' : S} (hagg : aggregateOne s h ts q = some s') :
    ∃ a : Agg.Aggregate, s' = { s with
      aggs := setAgg s.aggs ⟨q.qid, ts, a.value, a.reporter, a.power, nonceOf s.nonces q.qid + 1, false, h, a.microHeight,
        q.id, a.index, a.reporters⟩,
      nonces := setNonce s.nonces q.qid (nonceOf s.nonces q.qid + 1),
      queries := removeQuery s.queries q.qid q.id } := by
  unfold aggregateOne at hagg
  -- which reports the round has plays no part
  generalize List.mergeSort _ _ = reps at hagg
  dsimp only at hagg
  split at hagg
  · cases hagg
  · split at hagg
    · cases hagg
    · exact ⟨_, (Option.some.inj hagg).symm⟩

theorem mem_removeQuery {qs : List Query} {qid : String} {id : Nat} {q : Query} :
    q ∈ removeQuery qs qid id ↔ q ∈ qs ∧ ¬ (q.qid = qid ∧ q.id = id) := by
  simp [removeQuery, Decidable.imp_iff_not_or]

theorem rotateNext_seq {s : S} {h : Nat} {specOf : String → Spec} {s' : S}
    (hr : rotate.rotateNext s h specOf = some s') : s'.seq = if s.seq + 1 ≥ s.cycle.length then 0 else s.seq + 1 := by
  unfold rotate.rotateNext at hr
  extract_lets n n' nextQ qs s₁ at hr
  -- every branch returns `s₁`, whose `seq` is `n'`, with other fields updated
  split at hr
  · exact Option.some.inj hr ▸ rfl
  · split at hr <;> exact Option.some.inj hr ▸ rfl

theorem setAgg_fresh {as : List Agg} {a : Agg} (h : ∀ x ∈ as, ¬ (x.qid = a.qid ∧ x.ts = a.ts)) :
    setAgg as a = as ++ [a] := by
  have : as.any (fun x => x.qid == a.qid && x.ts == a.ts) = false :=
    List.any_eq_false.mpr fun x hx hc => h x hx (by simpa using hc)
  simp [setAgg, this]

theorem mem_setAgg_self {as : List Agg} {a : Agg} : a ∈ setAgg as a := by
  unfold setAgg
  split
  · rename_i hany
    obtain ⟨x, hx, hk⟩ := List.any_eq_true.mp hany
    exact List.mem_map.mpr ⟨x, hx, if_pos hk⟩
  · exact List.mem_append_right _ (List.mem_singleton_self a)

theorem nonceOf_setNonce {ns : List (String × Nat)} {qid : String} {n : Nat} : nonceOf (setNonce ns qid n) qid = n := by
  simp [nonceOf, setNonce, List.find?_append, Assoc.find?_filter_self Prod.fst]

section Sorted
variable {α : Type} {f : α → Nat} {l : List α} (hl : l.Pairwise (fun a b => f a < f b))
include hl

theorem getLast?_max {a : α} (h : l.getLast? = some a) : ∀ b ∈ l, f b ≤ f a := by
  obtain ⟨ys, rfl⟩ := List.getLast?_eq_some_iff.mp h
  intro b hb
  rcases List.mem_append.mp hb with hb | hb
  · exact Nat.le_of_lt ((List.pairwise_append.mp hl).2.2 b hb a (List.mem_singleton_self a))
  · rw [List.mem_singleton.mp hb]; exact Nat.le_refl _

theorem head?_min {a : α} (h : l.head? = some a) : ∀ b ∈ l, f a ≤ f b := by
  obtain ⟨ys, rfl⟩ := List.head?_eq_some_iff.mp h
  intro b hb
  rcases List.mem_cons.mp hb with rfl | hb
  · exact Nat.le_refl _
  · exact Nat.le_of_lt ((List.pairwise_cons.mp hl).1 b hb)

theorem getLast?_filter_max {p : α → Bool} {a : α} (h : (l.filter p).getLast? = some a) :
    a ∈ l ∧ p a = true ∧ ∀ b ∈ l, p b = true → f b ≤ f a :=
  have ha := List.mem_filter.mp (List.mem_of_getLast? h)
  ⟨ha.1, ha.2, fun b hb hp => getLast?_max (hl.filter p) h b (List.mem_filter.mpr ⟨hb, hp⟩)⟩

theorem head?_filter_min {p : α → Bool} {a : α} (h : (l.filter p).head? = some a) :
    a ∈ l ∧ p a = true ∧ ∀ b ∈ l, p b = true → f a ≤ f b :=
  have ha := List.mem_filter.mp (List.mem_of_head? h)
  ⟨ha.1, ha.2, fun b hb hp => head?_min (hl.filter p) h b (List.mem_filter.mpr ⟨hb, hp⟩)⟩

end Sorted

end Layer.Oracle
