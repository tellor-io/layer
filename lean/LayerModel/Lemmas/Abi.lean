import LayerModel.Base.Abi

namespace Layer.Bytes

/-- Go's `copy(dst[:32], src)` of exactly 32 bytes is the identity -/
theorem copy32_of_length {b : Bytes} (h : b.length = 32) : copy32 b = b := by
  rw [copy32, List.take_of_length_le (Nat.le_of_eq h), h]
  exact List.append_nil b

end Layer.Bytes

namespace Layer.Abi
open Layer Layer.Bytes

/-- the library packer on two static words is plain concatenation -/
theorem enc_two_words (a b : Bytes) : enc [.word a, .word b] = a ++ b := by
  simp [enc, heads, tailOf]

/-- look up a row of a generated table by its first `k` columns -/
def lookup (tbl : List (List String)) (key : List String) : Option String :=
  (tbl.find? (fun r => r.take key.length == key)).bind (fun r => r[key.length]?)

end Layer.Abi
