import LayerModel.Chain.Ledger
import LayerModel.Lemmas.FeeStake

/-!
# C05 — the staked-token ledger is always backed by the staking pools

Model: `Layer.Ledger` (pool balances against validator tokens + unbonding balances under the reporter / dispute modules'
direct pool moves).
-/
namespace Layer.Ledger

/-- number of entries credited by an operation -/
def entriesOf : Op → Int
  | .giveBack _ entries => entries.length
  | _ => 0

/-- **C05 (taking and giving back keep the pools in front of the ledger).** One operation never lowers the surplus of the pools over
the ledger, and raises it by at most one smallest unit per returned entry. -/
theorem C05_step (s : St) (op : Op) (h : wf op) :
    slack s ≤ slack (step s op) ∧
    slack (step s op) - slack s ≤ entriesOf op := by
  cases op with
  | take parts => simp only [step, slack, entriesOf]; constructor <;> omega
  | staking d => simp only [step, slack, entriesOf]; constructor <;> omega
  | giveBack amt entries =>
    obtain ⟨h1, h2⟩ := h
    simp only [step, slack, entriesOf]
    constructor <;> omega

/-- **C05 (for every history).** Starting from pools that back the ledger, after any sequence of stake taken for disputes or fees,
stake or rewards put back and ordinary staking operations, the pools still hold at least what validators and unbonding entries
record, and what stays behind in the pools is at most one unit per returned entry. -/
theorem C05_backed (ops : List Op) (s : St) (h0 : 0 ≤ slack s) (hw : ∀ op ∈ ops, wf op) :
    0 ≤ slack (ops.foldl step s) ∧
    slack (ops.foldl step s) - slack s ≤ (ops.map entriesOf).sum := by
  induction ops generalizing s with
  | nil => simp; exact h0
  | cons op ops ih =>
    obtain ⟨a, b⟩ := C05_step s op (hw op (by simp))
    obtain ⟨c, d⟩ := ih (step s op) (by omega) (fun o ho => hw o (by simp [ho]))
    simp only [List.foldl_cons, List.map_cons, List.sum_cons]
    constructor <;> omega

/-- **C05 (what was taken is what was recorded).** -/
theorem C05_take_recorded (s : St) (parts : List Int) :
    s.pool - (step s (.take parts)).pool = parts.sum ∧ s.ledger - (step s (.take parts)).ledger = parts.sum := by
  simp only [step]; constructor <;> omega

/-- the premises are satisfiable: a return of 10 loya credited as 3 + 3 + 3 -/
example : wf (.giveBack 10 [3, 3, 3]) ∧ slack (step ⟨100, 100⟩ (.giveBack 10 [3, 3, 3])) = 1 := by
  constructor
  · exact ⟨by decide, by decide⟩
  · decide

end Layer.Ledger


/-! ## Fee paid from stake (`FeefromReporterStake`, model `Layer.FeeStake`; helper lemmas in `Lemmas/FeeStake.lean`) -/
namespace Layer.FeeStake
open Layer

/-- **C05 (the per-backer record of a fee paid from stake sums to what was taken).**  For every group of selectors, every set of
delegations and every fee the keeper accepts, each record entry equals what was unbonded at that delegation — so the record sums to
the amount that left the bonded pool and the ledger. -/
theorem C05_fee_record_sums (sels : List Selector) (fee : Int) (os : List Origin) (h : feeFromStake sels fee = some os) :
    (∀ o ∈ os, o.recorded = o.taken) ∧ recordedSum os = moved os := by
  obtain ⟨_, rfl⟩ := feeFromStake_eq_some.mp h
  refine (fun h1 => ⟨h1, congrArg List.sum (List.map_congr_left h1)⟩) fun o ho => ?_
  obtain ⟨s, _, hs⟩ := List.mem_flatMap.mp ho
  exact takeFrom_recorded _ _ _ o hs

/-- **C05 (counterexample before fix c715962).**  A selector whose first delegation (100) cannot cover its share (300): the old record
held 200 — what was still to take — for the delegation from which 100 was taken, and summed to 400 for 300 moved. -/
theorem C05_fee_record_counterexample :
    let os := takeFromOld "s" [⟨"v1", 100⟩, ⟨"v0", 1000⟩] (Dec.ofInt 300)
    moved os = 300 ∧ recordedSum os = 400 := by decide

/-- **C05 (a fee from stake never overdraws a delegation).**  Every entry takes a non-negative amount, from a delegation of the
selector it names, and at most what that delegation holds. -/
theorem C05_fee_within_delegations (sels : List Selector) (fee : Int) (os : List Origin) (hf : 0 ≤ fee)
    (hd : ∀ s ∈ sels, ∀ d ∈ s.dels, 0 ≤ d.tokens) (h : feeFromStake sels fee = some os) :
    ∀ o ∈ os, 0 ≤ o.taken ∧ ∃ s ∈ sels, s.addr = o.del ∧ ∃ d ∈ s.dels, d.val = o.val ∧ o.taken ≤ d.tokens := by
  obtain ⟨_, rfl⟩ := feeFromStake_eq_some.mp h
  intro o ho
  obtain ⟨s, hs, hso⟩ := List.mem_flatMap.mp ho
  obtain ⟨a, b, d, hdm, c⟩ := takeFrom_within s.addr s.dels _
    (share_nonneg (selTokens_nonneg (hd s hs)) (totalTokens_nonneg hd) hf) (hd s hs) o hso
  exact ⟨a, s, hs, b.symm, d, hdm, c⟩

/-- **C05 / C13 (how much a fee paid from stake moves).**  For every group of selectors with any delegations and every fee (below
10^18 loya) that the keeper accepts, the amount that leaves the bonded pool for the dispute account lies strictly between
`fee − 2·n` and `fee + n`, `n` the number of selectors: each selector's share is rounded and cut to whole loya on its own.  The
dispute module nevertheless books the whole `fee` (recorded finding from-bond-fee-dust: the difference is missing from, or left over
in, the dispute account). -/
theorem C05_fee_moved_bounds (sels : List Selector) (fee : Int) (os : List Origin)
    (hd : ∀ s ∈ sels, ∀ d ∈ s.dels, 0 ≤ d.tokens) (hf : 0 < fee) (hfP : fee < Dec.prec)
    (h : feeFromStake sels fee = some os) :
    fee - 2 * sels.length < moved os ∧ moved os < fee + sels.length := by
  obtain ⟨hfT, rfl⟩ := feeFromStake_eq_some.mp h
  have hT : 0 < totalTokens sels := by omega
  rw [moved_flatMap]
  -- every selector's contribution, by `takeFrom_sum` and `sel_bounds`
  obtain ⟨lo, hi⟩ := sum_scaled_within
      (fun s => moved (takeFrom s.addr s.dels (share (selTokens s) (totalTokens sels) fee))) selTokens fee (totalTokens sels)
      (2 * totalTokens sels - 1) (totalTokens sels - 1) sels fun s hs => by
    have ht : 0 ≤ selTokens s := selTokens_nonneg (hd s hs)
    rw [takeFrom_sum s.addr s.dels _ (share_nonneg ht (Int.le_of_lt hT) (Int.le_of_lt hf)) (hd s hs)]
    obtain ⟨b1, b2⟩ := sel_bounds (selTokens s) (totalTokens sels) fee ht hT (Int.le_of_lt hf) hfP hfT
    unfold selTokens at b1 b2 ⊢; constructor <;> linarith
  rw [show (sels.map selTokens).sum = totalTokens sels from rfl] at lo hi
  have hn : (1 : Int) ≤ sels.length := by simpa using length_pos_of_sum_pos hT
  -- both bounds hold after multiplication by the total
  constructor <;> refine Int.lt_of_mul_lt_mul_right ?_ (Int.le_of_lt hT) <;> linarith

/-- the shortfall occurs (the history of the recorded finding): a reporter with one selector that delegates to two validators pays
55 000 000 from stake; 54 999 999 are moved.  The premises of the theorems above are satisfiable. -/
theorem C05_fee_short_counterexample :
    (feeFromStake [⟨"v1", [⟨"v1", 1054767137⟩]⟩, ⟨"a3", [⟨"v1", 100000⟩, ⟨"v0", 5547792⟩]⟩] 55000000).map moved = some 54999999 := by
  decide

end Layer.FeeStake
