import Mathlib.Tactic.Ring
import Mathlib.Tactic.Linarith
import LayerModel.Chain.Settle
import LayerModel.Lemmas.Dec
import LayerModel.Lemmas.Assoc
import LayerModel.Lemmas.ListSum

/-!
# C13 — dispute settlement pays out exactly what was paid in, once

Model: `Layer.Settle` (execution amounts per outcome, pro-rata refunds and bond shares with 10^-6 remainders, dust, voter
rewards).
-/
namespace Layer.Settle
open Layer Layer.Dec

/-- **C13 (burn amount).** 5 % of the fee, rounded down; half of it (rounded down) is burned at execution and the same amount
is the voters' pot, so at most one loya of the burn amount is neither. -/
theorem C13_burn_amounts (slash : Int) (h : 0 ≤ slash) :
    burnAmount slash = slash / 20 ∧ halfBurn (burnAmount slash) = slash / 20 / 2 ∧
    0 ≤ burnAmount slash - 2 * halfBurn (burnAmount slash) ∧ burnAmount slash - 2 * halfBurn (burnAmount slash) ≤ 1 := by
  have hb : burnAmount slash = slash / 20 := by
    unfold burnAmount
    rw [mul_ofInt, Int.mul_one]
    exact truncateInt_quo_ofInt slash 20 h (by omega) (by decide)
  have hh : halfBurn (slash / 20) = slash / 20 / 2 :=
    truncateInt_quo_ofInt (slash / 20) 2 (Int.ediv_nonneg h (by omega)) (by omega) (by decide)
  rw [hb, hh]
  refine ⟨rfl, rfl, ?_, ?_⟩ <;> omega

/-- **C13 (execution conserves the escrow, for any number of rounds).** What execution burns, returns to the reporter's side and
sets aside for fee payers (refund pot, and the reporter's bond when the dispute is supported) and voters adds up to the fees of all
rounds plus the escrowed stake (2·slash + roundFees), except for the odd loya of the burn amount when somebody voted. -/
theorem C13_execute_conserves (slash burn roundFees : Int) (anyVoter : Bool) (o : Outcome) :
    let e := execute slash burn anyVoter o roundFees
    e.burned + e.toReporter + e.payerPot + e.bondPot + e.voterReward + (if anyVoter then burn - 2 * halfBurn burn else 0) = 2 * slash + roundFees := by
  -- burned + voters' pot + the odd loya make `burn` whoever voted; the outcome only says who gets the rest
  cases o <;> cases anyVoter <;> simp only [execute, Bool.false_eq_true, if_false, if_true] <;> omega

/-- `fee·pot·10^6 / feeTotal` computed through LegacyDec is the integer quotient -/
theorem share12_exact (fee pot F : Int) (hf : 0 ≤ fee) (hp : 0 ≤ pot) (hF : 0 < F) (hFP : F ≤ prec) :
    Dec.truncateInt (share12Dec fee pot F) = fee * pot * 1000000 / F := by
  unfold share12Dec
  rw [mul_ofInt, mul_ofInt, show Dec.ofInt fee * pot * 1000000 = Dec.ofInt (fee * pot * 1000000) by unfold Dec.ofInt; ring]
  exact truncateInt_quo_ofInt _ F (by positivity) hF hFP

/-- the loya paid are the pro-rata part rounded down: cutting `⌊x·10^6/F⌋` to whole loya is `⌊x/F⌋` -/
theorem refund_fst (fee pot F : Int) (hf : 0 ≤ fee) (hp : 0 ≤ pot) (hF : 0 < F) (hFP : F ≤ prec) :
    (refund fee pot F).1 = fee * pot / F := by
  unfold refund
  simp only []
  rw [share12_exact fee pot F hf hp hF hFP, Int.tdiv_eq_ediv_of_nonneg (Int.ediv_nonneg (by positivity) (le_of_lt hF)),
    Int.ediv_ediv_of_nonneg (le_of_lt hF), Int.mul_ediv_mul_of_pos_left _ _ (by omega)]

/-- **C13 (a refund is the pro-rata part, rounded down, never more).** -/
theorem C13_refund_pro_rata (fee pot F : Int) (hf : 0 ≤ fee) (hp : 0 ≤ pot) (hF : 0 < F) (hFP : F ≤ prec) :
    (refund fee pot F).1 * F ≤ fee * pot ∧ fee * pot < ((refund fee pot F).1 + 1) * F ∧
    0 ≤ (refund fee pot F).2 ∧ (refund fee pot F).2 < 1000000 := by
  rw [refund_fst fee pot F hf hp hF hFP]
  refine ⟨Int.ediv_mul_le _ (Int.ne_of_gt hF), Int.lt_ediv_add_one_mul_self _ hF, ?_⟩
  unfold refund
  simp only []
  rw [share12_exact fee pot F hf hp hF hFP, Int.tmod_eq_emod_of_nonneg (Int.ediv_nonneg (by positivity) (le_of_lt hF))]
  omega

/-- **C13 (refunds never exceed their pot; at most one loya per payer stays behind).** For payers whose recorded fees add up to
the fee total, the refunds add up to at most the pot, and the pot exceeds them by less than the number of payers. -/
theorem C13_refunds_within_pot (fees : List Int) (pot F : Int) (hfees : ∀ f ∈ fees, 0 ≤ f) (hp : 0 ≤ pot) (hF : 0 < F) (hFP : F ≤ prec)
    (hsum : fees.sum = F) :
    (fees.map (fun f => (refund f pot F).1)).sum ≤ pot ∧ pot - (fees.map (fun f => (refund f pot F).1)).sum < fees.length := by
  -- the per-payer bounds of `C13_refund_pro_rata` (the strict one as `≤ … + (F − 1)`), summed
  obtain ⟨k1, k2⟩ := sum_scaled_within (fun f => (refund f pot F).1) id pot F (F - 1) 0 fees fun f hf => by
    obtain ⟨h1, h2, _⟩ := C13_refund_pro_rata f pot F (hfees f hf) hp hF hFP
    constructor <;> simp only [id] <;> linarith
  rw [List.map_id, hsum] at k1 k2
  have hn : (1 : Int) ≤ fees.length := length_pos_of_sum_pos (hsum ▸ hF)
  constructor
  · exact Int.le_of_mul_le_mul_right (by linarith) hF
  · exact Int.lt_of_mul_lt_mul_right (a := F) (by linarith) (Int.le_of_lt hF)

/-- the payer records of a dispute: a refund request takes the payer's record out -/
def withdrawRecord (recs : List (String × Int)) (payer : String) : Option (Int × List (String × Int)) :=
  match recs.find? (·.1 == payer) with
  | none => none
  | some r => some (r.2, recs.filter (fun x => !(x.1 == payer)))

/-- **C13 (claims happen once).** A payer record is consumed by its refund: the second request finds none. -/
theorem C13_refund_once (recs : List (String × Int)) (payer : String) (amt : Int) (rest : List (String × Int))
    (h : withdrawRecord recs payer = some (amt, rest)) : withdrawRecord rest payer = none := by
  unfold withdrawRecord at h ⊢
  cases hf : recs.find? (·.1 == payer) with
  | none => simp [hf] at h
  | some r =>
    obtain ⟨_, rfl⟩ : r.2 = amt ∧ recs.filter (fun x => !(x.1 == payer)) = rest := by simpa [hf] using h
    simp only [Assoc.find?_filter_self (fun x : String × Int => x.1) recs payer]

/-- **C13 (a sole voter of every voting group receives the whole pot).** (Before the tips-lookup fix the user group's share was
computed from the tips at the block numbered like the dispute id and was lost.) -/
theorem C13_sole_voter_whole_pot (vr u r h : Int) (hvr : 0 ≤ vr) (hu : 0 < u) (hr : 0 < r) (hh : 0 < h) :
    reward vr u r h u r h = some vr := by
  unfold reward
  simp only [Int.ne_of_gt hu, Int.ne_of_gt hr, Int.ne_of_gt hh, ↓reduceIte]
  -- a group in which the address holds all the votes contributes a share of exactly one (10^6 in fixed 6)
  have one : ∀ a : Int, 0 < a → Dec.quo (Dec.mul (Dec.ofInt a) (Dec.ofInt 1000000)) (Dec.ofInt a) = Dec.ofInt 1000000 := by
    intro a ha
    rw [mul_ofInt, Int.mul_comm, quo_mul_cancel (b := Dec.ofInt a) _ (Int.ne_of_gt (Int.mul_pos ha prec_pos))]
  rw [one u hu, one r hr, one h hh, mul_ofInt, mul_ofInt,
    show (Dec.ofInt 1000000 + Dec.ofInt 1000000 + Dec.ofInt 1000000) * vr = vr * (Dec.ofInt (1 + 1 + 1) * 1000000) by
      unfold Dec.ofInt; ring,
    quo_mul_cancel _ (by decide), truncateInt_ofInt]
  rfl

/-- hypotheses are satisfiable: a 10 000 000 loya dispute with three payers -/
example : (refund 2500000 9500000 10000000).1 = 2375000 ∧ ([2500000, 2500000, 5000000] : List Int).sum = 10000000 := by decide

end Layer.Settle
