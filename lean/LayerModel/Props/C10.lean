import LayerModel.Lemmas.Reporter

/-!
# C10 — reporting power equals the bonded stake of active selectors, counted once

Model: `Layer.Reporter`.
-/
namespace Layer.Reporter

/-! ### the two iteration strategies of `ReporterStake` -/

/-- **C10 (the two iteration strategies agree).** For any conversion `f` from shares to tokens, summing over the selector's
delegations to bonded validators (strategy used when the delegation counter is small) and summing over the bonded validators
that have a delegation of the selector (strategy used when it is large) give the same stake — provided validator names and
the selector's delegation targets are unique, as the staking store guarantees.  The counter therefore never influences the
result (up to the rounding difference of the two conversions, see `C10_conversion_gap`). -/
theorem C10_strategies_agree (f : Val → Int → Int) : ∀ (vals : List Val) (dsel : List Del),
    (vals.map (·.name)).Nodup → (dsel.map (·.validator)).Nodup → stakeA f vals dsel = stakeB f vals dsel := by
  intro vals dsel hv hd
  -- both sum the term of `v` for `d` over the pairs with `v.name = d.validator`: A delegation by delegation, B validator by validator
  rw [stakeA, stakeB, funext (termA_eq_sum f hv), funext (termB_eq_sum f hd)]
  exact sum_map_sum_comm _ dsel vals

/-- the two conversions differ by at most one smallest unit for a validator with non-negative tokens and positive shares -/
theorem C10_conversion_gap_example :
    tfs ⟨"v", true, 7, 3 * Dec.prec⟩ (3 * Dec.prec) = 7 ∧ tfsT ⟨"v", true, 7, 3 * Dec.prec⟩ (3 * Dec.prec) = 7 := by decide

/-! ### power, jail -/

/-- **C10 (a jailed reporter has no power).** -/
theorem C10_jailed_no_stake (s : S) (now : Int) (r : String) (rep : Rep) (h : findRep s r = some rep) (hj : rep.jailed = true) :
    reporterStake s now r = none := by simp [reporterStake, h, hj]

/-- **C10 (release only after the jail time).** -/
theorem C10_unjail_after_time (s s' : S) (now : Int) (r : String) (h : unjail s now r = some s') :
    ∃ rep, findRep s r = some rep ∧ rep.jailed = true ∧ rep.jailedUntil ≤ now :=
  let ⟨rep, hr, hj, ht, _⟩ := unjail_eq_some.mp h
  ⟨rep, hr, hj, ht⟩

/-- **C10 (locked selectors are not counted).** Every selector whose stake enters a report selects that reporter and is outside
its lock period. -/
theorem C10_counted_active (s : S) (now : Int) (r : String) (x : Sel) (h : x ∈ counted s now r) :
    x ∈ s.sels ∧ x.reporter = r ∧ x.lockedUntil ≤ now := by
  simp only [counted, selectorsOf, List.mem_filter, beq_iff_eq, Bool.not_eq_true', decide_eq_false_iff_not, Int.not_lt] at h
  exact ⟨h.1.1, h.1.2, h.2⟩

/-! ### one reporter per selector, cap, minimum -/

/-- selectors are keyed by their address -/
def SelKeys (s : S) : Prop := (s.sels.map (·.selector)).Nodup

/-- **C10 (every selector belongs to exactly one reporter).** The selection table has one entry per selector address, and every
message keeps it so. -/
theorem C10_one_reporter_create (s s' : S) (a : String) (m : Int) (hk : SelKeys s) (h : createReporter s a m = some s') : SelKeys s' := by
  obtain ⟨_, _, hn, rfl⟩ := createReporter_eq_some.mp h
  exact Assoc.nodup_append_of_not_mem _ hk (findSel_eq_none.mp hn)

theorem C10_one_reporter_select (s s' : S) (a r : String) (hk : SelKeys s) (h : selectReporter s a r = some s') : SelKeys s' := by
  obtain ⟨hn, _, _, _, _, rfl⟩ := selectReporter_eq_some.mp h
  exact Assoc.nodup_append_of_not_mem _ hk (findSel_eq_none.mp hn)

theorem C10_one_reporter_switch (s s' : S) (now : Int) (rp : String → Bool) (a r : String) (hk : SelKeys s)
    (h : switchReporter s now rp a r = some s') : SelKeys s' := by
  obtain ⟨_, _, _, _, _, _, _, hs'⟩ := switchReporter_eq_some.mp h
  unfold SelKeys
  rw [selectors_switch (congrArg S.sels hs')]
  exact hk

theorem C10_one_reporter_remove (s s' : S) (a : String) (hk : SelKeys s) (h : removeSelector s a = some s') : SelKeys s' := by
  obtain ⟨_, _, _, _, _, _, rfl⟩ := removeSelector_eq_some.mp h
  exact Assoc.nodup_filter _ hk _

/-- **C10 (joining respects cap and minimum).** An accepted `SelectReporter` finds the reporter below the cap and the joiner at or
above the reporter's minimum of bonded tokens; afterwards the reporter has one more selector and at most `maxSelectors`. -/
theorem C10_select_guards (s s' : S) (a r : String) (h : selectReporter s a r = some s') :
    ∃ rep, findRep s r = some rep ∧ rep.minTokens ≤ bondedOf s a ∧ (selectorsOf s r).length < s.params.maxSelectors ∧
      (selectorsOf s' r).length = (selectorsOf s r).length + 1 ∧ (selectorsOf s' r).length ≤ s'.params.maxSelectors := by
  obtain ⟨_, rep, hrep, hlt, hmin, hs'⟩ := selectReporter_eq_some.mp h
  have hlen := length_selectorsOf_append (congrArg S.sels hs') r
  rw [if_pos rfl] at hlen
  exact ⟨rep, hrep, hmin, hlt, hlen, by rw [hlen, hs']; exact hlt⟩

theorem C10_switch_guards (s s' : S) (now : Int) (rp : String → Bool) (a r : String) (h : switchReporter s now rp a r = some s') :
    ∃ rep, findRep s r = some rep ∧ rep.minTokens ≤ bondedOf s a ∧ (selectorsOf s r).length < s.params.maxSelectors :=
  let ⟨_, rep, _, _, hrep, hlt, hmin, _⟩ := switchReporter_eq_some.mp h
  ⟨rep, hrep, hmin, hlt⟩

theorem C10_create_guards (s s' : S) (a : String) (m : Int) (h : createReporter s a m = some s') :
    s.params.minTrb ≤ bondedOf s a ∧ s.params.minTrb ≤ m ∧ (findSel s a).isSome = false :=
  let ⟨h1, h2, h3, _⟩ := createReporter_eq_some.mp h
  ⟨h1, h2, by rw [h3]; rfl⟩

/-! ### no double counting within a window shorter than the unbonding period -/

/-- chain state with the history variables of the argument: which reporters have a stake snapshot, and for the selector `a`
under observation the reporter and time of the last report its stake entered -/
structure T where
  s : S
  now : Int
  reported : List String
  last : Option (String × Int)

inductive Op where
  | advance (dt : Nat)
  | report (r : String)
  | switch (a r : String)
  | select (a r : String)
  | create (a : String) (m : Int)
  | remove (a : String)
  | jail (r : String) (d : Int)
  | unjail (r : String)
  | staking (vals : List Val) (dels : List Del)    -- any change of the staking state

/-- one operation; a rejected message leaves the state as it was.  `a` is the selector under observation. -/
def tstep (a : String) (t : T) : Op → T
  | .advance dt => { t with now := t.now + dt }
  | .report r =>
    match reporterStake t.s t.now r with
    | none => t
    | some _ => { t with reported := r :: t.reported,
                         last := if (counted t.s t.now r).any (·.selector == a) then some (r, t.now) else t.last }
  | .switch x r => match switchReporter t.s t.now (fun p => t.reported.contains p) x r with | some s' => { t with s := s' } | none => t
  | .select x r => match selectReporter t.s x r with | some s' => { t with s := s' } | none => t
  | .create x m => match createReporter t.s x m with | some s' => { t with s := s' } | none => t
  | .remove x => match removeSelector t.s x with | some s' => { t with s := s' } | none => t
  | .jail r d => match jail t.s t.now r d with | some s' => { t with s := s' } | none => t
  | .unjail r => match unjail t.s t.now r with | some s' => { t with s := s' } | none => t
  | .staking vals dels => { t with s := { t.s with vals := vals, dels := dels } }

/-- the invariant: if `a`'s stake last entered a report of `A` at `t1` and `a` now selects somebody else, it is locked until
`t1 + unbonding` at least -/
def NoDouble (a : String) (t : T) : Prop :=
  SelKeys t.s ∧ 0 ≤ t.s.params.unbondingMs ∧
  (findSel t.s a = none → t.last = none) ∧
  ∀ x A t1, findSel t.s a = some x → t.last = some (A, t1) →
    A ∈ t.reported ∧ t1 ≤ t.now ∧ (x.reporter ≠ A → t1 + t.s.params.unbondingMs ≤ x.lockedUntil)

section
variable {a : String} {t t' : T} {s' : S}

/-- a rejected message leaves the state as it was, so an invariant has to be shown for accepted ones only -/
theorem msg_inv {P : T → Prop} {o : Option S} (h : P t) :
    (∀ s', o = some s' → P { t with s := s' }) → P (match o with | some s' => { t with s := s' } | none => t) := by
  cases o with
  | none => exact fun _ => h
  | some s' => exact fun hs => hs s' rfl

/-- once `a` has a record `x`, the invariant is a claim about `x` and the last counted report -/
theorem nodouble_of_some {x : Sel} (hk : SelKeys t.s) (hu : 0 ≤ t.s.params.unbondingMs)
    (hx : findSel t.s a = some x)
    (h : ∀ A t1, t.last = some (A, t1) →
      A ∈ t.reported ∧ t1 ≤ t.now ∧ (x.reporter ≠ A → t1 + t.s.params.unbondingMs ≤ x.lockedUntil)) : NoDouble a t :=
  ⟨hk, hu, fun hn => (by rw [hx] at hn; cases hn),
    fun y A t1 hy => by obtain rfl := Option.some.inj (hx.symm.trans hy); exact h A t1⟩

/-- the invariant survives whatever keeps the record of `a` (if it has one), the parameters and the last counted report -/
theorem nodouble_frame (h : NoDouble a t) (hk : SelKeys t'.s)
    (hf : ∀ x, findSel t.s a = some x → findSel t'.s a = some x) (hp : t'.s.params = t.s.params) (hl : t'.last = t.last)
    (hr : ∀ p ∈ t.reported, p ∈ t'.reported) (hn : t.now ≤ t'.now) : NoDouble a t' := by
  obtain ⟨_, hu, hnone, hinv⟩ := h
  cases hx : findSel t.s a with
  | none =>
    -- no report has counted `a` yet, so nothing is claimed about the record it may have now
    have hl' := hl.trans (hnone hx)
    exact ⟨hk, hp ▸ hu, fun _ => hl', fun _ _ _ _ hlast => by rw [hl'] at hlast; cases hlast⟩
  | some x =>
    refine nodouble_of_some hk (hp ▸ hu) (hf x hx) fun A t1 hlast => ?_
    obtain ⟨h1, h2, h3⟩ := hinv x A t1 hx (hl ▸ hlast)
    exact ⟨hr A h1, Int.le_trans h2 hn, hp ▸ h3⟩

theorem nodouble_msg (h : NoDouble a t) (hk : SelKeys s')
    (hf : ∀ x, findSel t.s a = some x → findSel s' a = some x) (hp : s'.params = t.s.params) : NoDouble a { t with s := s' } :=
  nodouble_frame h hk hf hp rfl (fun _ hp => hp) (Int.le_refl _)

theorem nodouble_sels (h : NoDouble a t) (hs : s'.sels = t.s.sels) (hp : s'.params = t.s.params) :
    NoDouble a { t with s := s' } :=
  nodouble_msg h (by unfold SelKeys; rw [hs]; exact h.1) (fun _ => by unfold findSel; rw [hs]; exact id) hp

end

/-- **C10 (one step keeps the lock invariant)** — for every operation except an accepted removal of the observed selector -/
theorem nodouble_step (a : String) (t : T) (op : Op) (h : NoDouble a t) (hno : op = .remove a → removeSelector t.s a = none) :
    NoDouble a (tstep a t op) := by
  cases op with
  | advance dt =>
    exact nodouble_frame h h.1 (fun _ => id) rfl rfl (fun _ hp => hp) (Int.le_add_of_nonneg_right (Int.natCast_nonneg dt))
  | staking vals dels => exact nodouble_sels h rfl rfl
  | jail r d => exact msg_inv h fun _ hs => let ⟨h1, h2, _⟩ := jail_frame hs; nodouble_sels h h1 h2
  | unjail r => exact msg_inv h fun _ hs => let ⟨h1, h2, _⟩ := unjail_frame hs; nodouble_sels h h1 h2
  | select x r =>
    refine msg_inv h fun s' hs => ?_
    have hk' := C10_one_reporter_select _ _ _ _ h.1 hs
    obtain ⟨_, _, _, _, _, rfl⟩ := selectReporter_eq_some.mp hs
    exact nodouble_msg h hk' (fun _ => findSel_append rfl) rfl
  | create x m =>
    refine msg_inv h fun s' hs => ?_
    have hk' := C10_one_reporter_create _ _ _ _ h.1 hs
    obtain ⟨_, _, _, rfl⟩ := createReporter_eq_some.mp hs
    exact nodouble_msg h hk' (fun _ => findSel_append rfl) rfl
  | remove x =>
    refine msg_inv h fun s' hs => ?_
    have hk' := C10_one_reporter_remove _ _ _ h.1 hs
    obtain ⟨_, _, _, _, _, _, rfl⟩ := removeSelector_eq_some.mp hs
    have hxa : x ≠ a := fun e => by subst e; rw [hno rfl] at hs; cases hs
    exact nodouble_msg h hk' (fun _ => (Assoc.find?_filter_ne _ _ hxa).trans) rfl
  | report r =>
    simp only [tstep]
    cases reporterStake t.s t.now r with
    | none => exact h
    | some _ =>
      dsimp only
      by_cases hany : (counted t.s t.now r).any (·.selector == a) = true
      · -- the record of `a` is counted in this report, so it selects `r`, and `(r, now)` becomes the last counted report
        obtain ⟨y, hy, hya⟩ := List.any_eq_true.mp hany
        obtain ⟨hym, hyr, _⟩ := C10_counted_active t.s t.now r y hy
        refine nodouble_of_some h.1 h.2.1 (eq_of_beq hya ▸ findSel_of_mem h.1 hym) fun A t1 hlast => ?_
        rw [if_pos hany] at hlast
        cases hlast
        exact ⟨List.mem_cons_self, Int.le_refl _, fun hne => absurd hyr hne⟩
      · exact nodouble_frame h h.1 (fun _ => id) rfl (if_neg hany) (fun _ hp => List.mem_cons_of_mem _ hp) (Int.le_refl _)
  | switch x r =>
    refine msg_inv h fun s' hs => ?_
    have hk' := C10_one_reporter_switch _ _ _ _ _ _ h.1 hs
    obtain ⟨sx, _, hsx, _, _, _, _, hs'⟩ := switchReporter_eq_some.mp hs
    have hp : s'.params = t.s.params := by rw [hs']
    have hf := findSel_switch (a := a) (congrArg S.sels hs')
    by_cases hxa : a = x
    · -- `a` itself switches: if the reporter it leaves has reported, the lock becomes `now + unbonding`; if not, that reporter
      -- is not `A`, and the old lock covers `A`
      subst hxa
      rw [hsx, beq_self_eq_true] at hf
      refine nodouble_of_some hk' (hp ▸ h.2.1) hf fun A t1 hlast => ?_
      obtain ⟨h1, h2, h3⟩ := h.2.2.2 sx A t1 hsx hlast
      refine ⟨h1, h2, fun _ => ?_⟩
      show t1 + s'.params.unbondingMs ≤
        if (t.reported.contains sx.reporter) then t.now + t.s.params.unbondingMs else sx.lockedUntil
      rw [hp]
      split
      · exact Int.add_le_add_right h2 _
      · next hc => exact h3 fun hrep => hc (hrep ▸ List.contains_iff_mem.mpr h1)
    · rw [beq_false_of_ne hxa] at hf
      exact nodouble_msg h hk' (fun _ hy => by rw [hf, hy]; rfl) hp

/-- **C10 (no double counting).** Over any sequence of delegations, validator status changes, reports, selections, switches,
jailings, time steps and removals of *other* selectors, the lock invariant holds; hence when the stake of selector `a`
enters a report of reporter `B` after having entered a report of another reporter `A` at time `t1`, at least the unbonding
period lies between the two reports — no reporting window shorter than it can contain both. -/
theorem C10_no_double_count_partial (a : String) (ops : List Op) (t : T) (h : NoDouble a t) (hno : ∀ op ∈ ops, op ≠ .remove a) :
    NoDouble a (ops.foldl (tstep a) t) :=
  List.foldlRecOn ops (tstep a) h fun t h op hop => nodouble_step a t op h fun e => absurd e (hno op hop)

theorem C10_window (a : String) (t : T) (h : NoDouble a t) (B A : String) (t1 : Int) (x : Sel)
    (hx : x ∈ counted t.s t.now B) (hxa : x.selector = a) (hl : t.last = some (A, t1)) (hne : A ≠ B) :
    t1 + t.s.params.unbondingMs ≤ t.now := by
  obtain ⟨hk, _, _, hinv⟩ := h
  obtain ⟨hm, hr, hlock⟩ := C10_counted_active t.s t.now B x hx
  obtain ⟨_, _, h3⟩ := hinv x A t1 (hxa ▸ findSel_of_mem hk hm) hl
  have := h3 (hr ▸ hne.symm)
  omega

/-- **C10 (the statement at full strength fails through remove + select).** A selector whose stake entered `A`'s report, was
removed from `A` (below the minimum of a reporter over its cap) and selects `B` carries no lock: `B` can count the same
delegation at once.  (Reaching this needs more selectors than the cap, i.e. a cap lowered by governance.) -/
theorem C10_remove_select_counterexample :
    let v : Val := ⟨"val", true, 5000000, 5000000 * Dec.prec⟩
    let s0 : S := { vals := [v], dels := [⟨"x", "val", 2000000 * Dec.prec⟩, ⟨"A", "val", 3000000 * Dec.prec⟩],
                    sels := [⟨"A", "A", 0, 1⟩, ⟨"x", "A", 0, 1⟩, ⟨"y", "A", 0, 0⟩, ⟨"B", "B", 0, 0⟩], reps := [⟨"A", false, 0, 3000000⟩, ⟨"B", false, 0, 1000000⟩],
                    params := ⟨2, 1000000, 100, 1814400000⟩ }
    let t0 : T := ⟨s0, 1000, [], none⟩
    let t1 := [Op.report "A", .remove "x", .select "x" "B", .advance 1, .report "B"].foldl (tstep "x") t0
    t1.last = some ("B", 1001) ∧ ([Op.report "A"].foldl (tstep "x") t0).last = some ("A", 1000) := by decide

/-- a non-trivial start state: reporter `A` with a second selector `x` -/
def exS : S :=
  { vals := [⟨"val", true, 5000000, 5000000 * Dec.prec⟩], dels := [⟨"x", "val", 2000000 * Dec.prec⟩],
    sels := [⟨"A", "A", 0, 1⟩, ⟨"x", "A", 0, 1⟩], reps := [⟨"A", false, 0, 1000000⟩],
    params := ⟨10, 1000000, 100, 1814400000⟩ }
/-- the invariant holds there, so `C10_no_double_count_partial` is not vacuous -/
example : NoDouble "x" (T.mk exS 0 [] none) :=
  ⟨by unfold SelKeys; decide, by decide, fun _ => rfl, fun _ _ _ _ h => by cases h⟩

/-! ### the full statement while the selector cap is not lowered -/

/-- no reporter has more selectors than the cap -/
def Capped (s : S) : Prop := ∀ r, (selectorsOf s r).length ≤ s.params.maxSelectors

/-- **C10 (RemoveSelector is unreachable while every reporter is within the cap).** -/
theorem C10_remove_needs_excess (s : S) (a : String) (h : Capped s) : removeSelector s a = none := by
  cases hr : removeSelector s a with
  | none => rfl
  | some s' =>
    obtain ⟨x, _, _, _, _, hex, _⟩ := removeSelector_eq_some.mp hr
    exact absurd (h x.reporter) (Nat.not_le.mpr hex)

/-- the cap still holds when only a reporter `r` below it gains a selector, and no more than one -/
theorem capped_of_le {s s' : S} {r : String} (h : Capped s) (hp : s'.params = s.params)
    (hr : (selectorsOf s r).length < s.params.maxSelectors)
    (hle : ∀ q, (selectorsOf s' q).length ≤ (selectorsOf s q).length + if q = r then 1 else 0) : Capped s' := by
  intro q
  refine Nat.le_trans (hle q) ?_
  rw [hp]
  split
  · next hq => exact hq ▸ hr
  · exact h q

/-- every selection points to a registered reporter, every reporter has a selection entry, and the cap admits a reporter's own entry -/
def RepSel (s : S) : Prop :=
  (∀ x ∈ s.sels, (findRep s x.reporter).isSome = true) ∧ (∀ rep ∈ s.reps, (findSel s rep.name).isSome = true) ∧ 1 ≤ s.params.maxSelectors

/-- the combined invariant of the selection tables -/
def Tables (s : S) : Prop := SelKeys s ∧ RepSel s ∧ Capped s

section
variable {s s' : S} {a r : String}

/-- `RepSel` as inclusions between the selected reporters, the reporters' names and the selectors -/
theorem repSel_iff : RepSel s ↔ s.sels.map (·.reporter) ⊆ s.reps.map (·.name) ∧
    s.reps.map (·.name) ⊆ s.sels.map (·.selector) ∧ 1 ≤ s.params.maxSelectors := by
  simp only [RepSel, findRep_isSome, findSel_isSome, List.subset_def, List.forall_mem_map]

/-- the table invariant speaks of the selection table, the parameters and the reporters' names only -/
theorem tables_frame (h : Tables s)
    (hs : s'.sels = s.sels ∧ s'.params = s.params ∧ s'.reps.map (·.name) = s.reps.map (·.name)) : Tables s' := by
  simp only [Tables, SelKeys, repSel_iff, Capped, selectorsOf, hs.1, hs.2.1, hs.2.2] at h ⊢
  exact h

theorem tables_create {m : Int} (h : Tables s) (hc : createReporter s a m = some s') : Tables s' := by
  obtain ⟨hk, hrs, hcap⟩ := h
  have hk' := C10_one_reporter_create s s' a m hk hc
  obtain ⟨r1, r2, r3⟩ := repSel_iff.mp hrs
  obtain ⟨_, _, hn, rfl⟩ := createReporter_eq_some.mp hc
  -- `a` has no selection entry, so it is no reporter yet, so nobody selects it
  have hnone : selectorsOf s a = [] := List.filter_eq_nil_iff.mpr fun x hx hxa =>
    findSel_eq_none.mp hn (r2 (eq_of_beq hxa ▸ r1 (List.mem_map_of_mem hx)))
  exact ⟨hk',
    repSel_iff.mpr ⟨by simp [r1, List.subset_append_of_subset_left], by simp [r2, List.subset_append_of_subset_left], r3⟩,
    capped_of_le hcap rfl (by rw [hnone]; exact r3) fun q => Nat.le_of_eq (length_selectorsOf_append rfl q)⟩

theorem tables_select (h : Tables s) (hc : selectReporter s a r = some s') : Tables s' := by
  obtain ⟨hk, hrs, hcap⟩ := h
  have hk' := C10_one_reporter_select s s' a r hk hc
  obtain ⟨r1, r2, r3⟩ := repSel_iff.mp hrs
  obtain ⟨_, rep, hrep, hlt, _, rfl⟩ := selectReporter_eq_some.mp hc
  exact ⟨hk', repSel_iff.mpr ⟨by simp [r1, findRep_name_mem hrep], by simp [r2, List.subset_append_of_subset_left], r3⟩,
    capped_of_le hcap rfl hlt fun q => Nat.le_of_eq (length_selectorsOf_append (n := ⟨a, r, 0, _⟩) rfl q)⟩

theorem tables_switch {now : Int} {rp : String → Bool} (h : Tables s) (hc : switchReporter s now rp a r = some s') :
    Tables s' := by
  obtain ⟨hk, hrs, hcap⟩ := h
  have hk' := C10_one_reporter_switch s s' now rp a r hk hc
  obtain ⟨r1, r2, r3⟩ := repSel_iff.mp hrs
  obtain ⟨_, rep, _, _, hrep, hlt, _, hs'⟩ := switchReporter_eq_some.mp hc
  have hs := congrArg S.sels hs'
  have hp : s'.params = s.params := by rw [hs']
  refine ⟨hk', repSel_iff.mpr ⟨?_, ?_, hp ▸ r3⟩, capped_of_le hcap hp hlt (length_selectorsOf_switch_le hs hk)⟩
  · -- a record points to `r` or where it pointed before
    rw [hs, hs', List.map_map]
    intro k hk
    obtain ⟨z, hz, rfl⟩ := List.mem_map.mp hk
    dsimp only [Function.comp]
    split
    · exact findRep_name_mem hrep
    · exact r1 (List.mem_map_of_mem hz)
  · rw [selectors_switch hs, hs']
    exact r2

end

theorem tables_step (a : String) (t : T) (op : Op) (h : Tables t.s) : Tables (tstep a t op).s := by
  have hm {o : Option S} := msg_inv (P := fun t => Tables t.s) (o := o) h
  cases op with
  | advance dt => exact h
  | report r => simp only [tstep]; split <;> exact h
  | staking vals dels => exact tables_frame h ⟨rfl, rfl, rfl⟩
  | switch x r => exact hm fun _ => tables_switch h
  | select x r => exact hm fun _ => tables_select h
  | create x m => exact hm fun _ => tables_create h
  | remove x => simp only [tstep]; rw [C10_remove_needs_excess t.s x h.2.2]; exact h
  | jail r d => exact hm fun _ hj => tables_frame h (jail_frame hj)
  | unjail r => exact hm fun _ hj => tables_frame h (unjail_frame hj)

/-- **C10 (no double counting, full statement while the cap is not lowered).** With well-formed selection tables (one entry per
address, selections point to reporters, every reporter has its entry, no reporter above a cap of at least 1), over EVERY sequence
of operations — removals included, since `RemoveSelector` cannot succeed — the lock invariant holds: the same selector's stake
enters reports of two different reporters only if at least the unbonding period lies between them. -/
theorem C10_no_double_count (a : String) (ops : List Op) (t : T) (h : NoDouble a t) (ht : Tables t.s) :
    NoDouble a (ops.foldl (tstep a) t) ∧ Tables (ops.foldl (tstep a) t).s :=
  List.foldlRecOn (motive := fun t => NoDouble a t ∧ Tables t.s) ops (tstep a) ⟨h, ht⟩ fun t ⟨h, ht⟩ op _ =>
    ⟨nodouble_step a t op h fun _ => C10_remove_needs_excess t.s a ht.2.2, tables_step a t op ht⟩

/-- the table invariant holds in the concrete start state used above -/
example : Tables exS :=
  ⟨by unfold SelKeys; decide, ⟨by decide, by decide, by decide⟩,
    fun r => Nat.le_trans (List.length_filter_le _ _) (by decide)⟩

end Layer.Reporter
