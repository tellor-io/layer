import LayerModel.Lemmas.Aggregate
import LayerModel.Chain.Rewards
import LayerModel.Lemmas.ListSum
import LayerModel.Gen.MapRangeSites
import LayerModel.Gen.AmbientSites

/-!
# C01 — block execution is deterministic across runs and nodes

Inside Lean every function is deterministic; the content of C01 is (i) the places where Go is not —
iteration over maps, wall clock, goroutines, randomness, node-local configuration — and (ii) that for
each such place the result does not depend on it.  (i) is a table regenerated from the source on
every run (`Layer.Gen.mapRangeSites`, `Layer.Gen.ambientSites`) and compared with the classified
table below; (ii) is one theorem per classified site.
-/
namespace Layer.C01

/-- the map-range loops of the consensus packages at the verified commit, each with its classification:
* `App.AutoCliOpts` — CLI wiring, not on a consensus path;
* `App.ModuleAccountAddrs` — builds a map from a map (insertion order irrelevant);
* `lib.GetSortedKeys` — collects the keys and sorts them (`sort.Slice`) before returning;
* `Keeper.PowerDiff` — sums absolute values (`C01_powerdiff_order_indep`);
* `Keeper.AllocateRewards` — map → slice, then sorted by address (`C01_rewards_order_indep`).
The weighted-mode loop that used to range over `frequencyMap` is gone (fix 5a3c6e6). -/
def classifiedMapRanges : List (List String) := [

  ["app/app.go", "App.AutoCliOpts", "app.ModuleManager().Modules", "map[string]interface{}"],
  ["app/app.go", "App.ModuleAccountAddrs", "maccPerms", "map[string][]string"],
  ["lib/collections.go", "GetSortedKeys", "m", "map[K]V"],
  ["x/bridge/keeper/keeper.go", "Keeper.PowerDiff", "powers", "map[string]int64"],
  ["x/oracle/keeper/rewards.go", "Keeper.AllocateRewards", "reportersMap", "map[string]github.com/tellor-io/layer/x/oracle/keeper.ReportersReportCount"]
]

/-- **C01 (every map loop is classified).** A new `range` over a map in a consensus package, or the
removal/move of a classified one, changes the regenerated table and fails here. -/
theorem C01_sites_classified : Layer.Gen.mapRangeSites = classifiedMapRanges := rfl

/-- wall clock / goroutine / randomness / environment uses in consensus packages, classified:
* `app.New` `go …` — daemon start-up and servers (node-local services, never write chain state);
* `TimeProviderImpl.Now` — used by the daemons only;
* `mint.BeginBlocker` `time.Now` — argument of `telemetry.ModuleMeasureSince` (metrics only);
* `utils.Salt` `crypto/rand` — client-side helper for commit/reveal salts, not called by any keeper. -/
def allowedAmbient : List (List String) := [

  ["app/app.go", "New", "go", "app.Server.Start"],
  ["app/app.go", "New", "go", "func() { app.ReporterClient = reporterclient.NewClient(cltx, logger, daemonFlags.Reporter.AccountName, cast.ToString(appOpts.Get(server.FlagMinGasPrices))) if err := app.ReporterClient.Start( context.Background(), daemonFlags, appFlags, &daemontypes.GrpcClientImpl{}, marketParamsConfig, indexPriceCache, tokenDepositsCache, *app.StakingKeeper, app.ChainID(), ); err != nil { panic(err) } }"],
  ["app/app.go", "New", "go", "func() { defer func() { if r := recover(); r != nil { logger.Error( \"Metrics Daemon exited unexpectedly with a panic.\", \"panic\", r, \"stack\", string(debug.Stack()), ) } }() metricsclient.Start( context.Background(), logger, ) }"],
  ["app/app.go", "New", "go", "medianserver.StartMedianServer"],
  ["lib/time/time_provider.go", "TimeProviderImpl.Now", "time.Now", ""],
  ["x/mint/abci.go", "BeginBlocker", "time.Now", ""],
  ["x/oracle/utils/utils.go", "Salt", "crypto/rand.Read", ""]
]

/-- **C01 (no ambient input on a consensus path).** -/
theorem C01_no_ambient : Layer.Gen.ambientSites = allowedAmbient := rfl

end Layer.C01

namespace Layer.Agg

/-- **C01 (fixed tie rule of the weighted mode).** The scan over the reports' values in report order
returns the FIRST value of maximal weight: every value before it weighs strictly less, every value
after it at most as much.  The result is a function of the report list alone. -/
theorem C01_mode_fixed_rule (rs : List Report) (hpos : ∃ r ∈ rs, 0 < weight rs r.value) :
    ∃ pre post, rs.map (·.value) = pre ++ modeWith rs (rs.map (·.value)) :: post ∧
      (∀ u ∈ pre, weight rs u < weight rs (modeWith rs (rs.map (·.value)))) ∧
      (∀ u ∈ post, weight rs u ≤ weight rs (modeWith rs (rs.map (·.value)))) := by
  rcases modeScan_first_max (weight rs) (rs.map (·.value)) (0, "") with ⟨_, hle⟩ | ⟨pre, v, post, hxs, hres, _, hpre, hpost⟩
  · obtain ⟨r, hr, hw⟩ := hpos
    exact absurd (hle r.value (List.mem_map_of_mem hr)) (Nat.not_le.mpr hw)
  · rw [modeWith, hres]
    exact ⟨pre, post, hxs, hpre, hpost⟩

/-- **C01 (order independence under a unique maximum, partial).** If one value weighs strictly more
than every other key, every scan order that visits it returns it. -/
theorem C01_mode_order_indep_partial (w : String → Nat) (ord : List String) (m : String)
    (hm : m ∈ ord) (huniq : ∀ u ∈ ord, u ≠ m → w u < w m) (hpos : 0 < w m) :
    (modeScan w (0, "") ord).2 = m := by
  rcases modeScan_first_max w ord (0, "") with ⟨-, hle⟩ | ⟨pre, v, post, hord, h, -⟩
  · exact absurd (hle m hm) (Nat.not_le.mpr hpos)
  · have hmax : w m ≤ w v := by simpa only [h] using modeScan_max w ord (0, "") (Nat.zero_le _) m hm
    rw [h]
    -- any other result `v` would weigh less than `m`, which the scan visited
    exact Decidable.byContradiction fun hv => absurd hmax (Nat.not_le.mpr (huniq v (by rw [hord]; simp) hv))

/-- **C01 (counterexample for map-order iteration, the code before fix 5a3c6e6).** Two values of equal
weight: two iteration orders of the same key set give two different aggregates. -/
theorem C01_mode_tie_counterexample :
    let rs : List Report := [⟨"a", "42a", 1, 100⟩, ⟨"b", "042a", 1, 101⟩]
    modeWith rs ["42a", "042a"] ≠ modeWith rs ["042a", "42a"] := by decide

end Layer.Agg

namespace Layer.Rewards

/-- **C01 (reward allocation does not depend on map iteration order).** Whatever order the reporter map
is turned into a slice in, the sorted slice — and with it every `AllocateTip` call and the identity of
the reporter that absorbs the remainder — is the same. -/
theorem C01_rewards_order_indep (m₁ m₂ : List RepInfo) (total : Nat) (reward : Int) (hp : m₁.Perm m₂)
    (hkey : ∀ a ∈ m₁, ∀ b ∈ m₁, a.addr = b.addr → a = b) :
    payLoop total reward 0 (sortByAddr m₁) = payLoop total reward 0 (sortByAddr m₂) := by
  -- addresses are the map's keys, hence distinct (`hkey`): sorting by them erases the order of `m₁`
  unfold sortByAddr
  rw [mergeSort_key_eq_of_perm RepInfo.addr hp hkey]

end Layer.Rewards

namespace Layer

/-- Σ|x| — the accumulation of `PowerDiff` over the (randomly ordered) map of power changes -/
def sumAbs (xs : List Int) : Int := (xs.map (fun x => if x < 0 then -x else x)).sum

/-- **C01 (the validator-set power difference does not depend on map iteration order).** -/
theorem C01_powerdiff_order_indep (d₁ d₂ : List Int) (h : d₁.Perm d₂) : sumAbs d₁ = sumAbs d₂ :=
  sum_perm (h.map _)

end Layer
