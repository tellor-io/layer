import LayerModel.Lemmas.Proposal

/-!
# C17 — vote-extension data reaches state only as signed; proposals stay coherent

Model: `Layer.Proposal` (derivations, inject, compare, registrations).  The handlers themselves are exercised on
the real application by family `proposal` (hostile extension payloads, single-field mutations of the injected
transaction, absent voters), with monitors for acceptance, rejection, panics and the bridge maps after PreBlock.
-/
namespace Layer.Proposal
open Layer

/-- **C17 (coherence).** Every proposal an honest proposer builds from an extended commit that passes
`ValidateVoteExtensions` is accepted by every validator on the same state — for every commit (any mix of
commit/absent votes, undecodable, empty, oversized or hostile extension contents). -/
theorem C17_coherent (env : Env) (commitValid : List Vote → Bool) (commit : List Vote) (h : commitValid commit = true) :
    process env commitValid (prepare env commit) = true := by
  simp [process, prepare, h]

/-- **C17 (tamper).** An accepted proposal carries exactly the data derived from its commit's vote extensions:
any proposal whose registrations, validator-set signatures or attestations differ in any element (or in nil-vs-empty
shape) from what the commit contains is rejected. -/
theorem C17_tamper (env : Env) (commitValid : List Vote → Bool) (inj : Injected)
    (h : process env commitValid inj = true) :
    inj = prepare env inj.commit ∧ commitValid inj.commit = true := by
  simp only [process, Bool.and_eq_true, decide_eq_true_eq] at h
  obtain ⟨⟨⟨hv, h1⟩, h2⟩, h3⟩ := h
  refine ⟨?_, hv⟩
  cases inj
  simp_all [prepare]

/-- **C17 (parallel lists are aligned).** The derived lists that PreBlocker indexes by position always have equal
lengths, so an accepted proposal never makes it index out of range. -/
theorem C17_lists_aligned (env : Env) (votes : List Vote) :
    ((deriveInit env votes).ops.getD []).length = ((deriveInit env votes).evms.getD []).length ∧
    ((deriveValset votes).ops.getD []).length = ((deriveValset votes).tss.getD []).length ∧
    ((deriveValset votes).ops.getD []).length = ((deriveValset votes).sigs.getD []).length ∧
    ((deriveAtts votes).atts.getD []).length = ((deriveAtts votes).snaps.getD []).length ∧
    ((deriveAtts votes).atts.getD []).length = ((deriveAtts votes).ops.getD []).length := by
  refine ⟨?_, ?_, ?_, ?_, ?_⟩
  · simp only [deriveInit]; split <;> simp
  all_goals simp [deriveValset, deriveAtts, toSlice_getD]

/-- the registrations of an accepted proposal are the pairs collected from its commit, in vote order -/
theorem registrations_of_process {env : Env} {commitValid : List Vote → Bool} {inj : Injected}
    (h : process env commitValid inj = true) : registrations inj = collectInit env inj.commit := by
  rw [(C17_tamper env commitValid inj h).1, registrations_prepare]
  rfl

/-- **C17 (an EVM address is registered once, from the validator's own signatures).** The registrations of an
accepted proposal are exactly the (operator, recovered address) pairs of commit votes whose operator has NO address
yet and whose two initial signatures recover to one address: an operator that already has an address is never
written again, and the address comes from that operator's own vote. -/
theorem C17_register_once (env : Env) (commitValid : List Vote → Bool) (inj : Injected)
    (h : process env commitValid inj = true) :
    ∀ p ∈ registrations inj, env.hasEvm p.1 = false ∧
      ∃ v ∈ inj.commit, v.commit = true ∧ v.operator = some p.1 ∧
        ∃ e, v.ext = some e ∧ 64 ≤ e.sigA.length ∧ 64 ≤ e.sigB.length ∧ env.recover e.sigA e.sigB = some p.2 :=
  fun _ hp => mem_collectInit.mp (registrations_of_process h ▸ hp)

/-- **C17 (no panic on short signatures).** With the guard, address recovery is only reached with two signatures of
at least 64 bytes, where the slicing `sig[:64]` is defined — for every vote-extension payload. -/
theorem C17_no_short_sig_panic (env : Env) (a b : Bytes) (ha : 64 ≤ a.length) (hb : 64 ≤ b.length) :
    recoverOrPanic env a b = some (env.recover a b) := by
  rw [recoverOrPanic, if_neg (by omega)]

/-- **C17 (counterexample before fix 5ee174c).** A 63-byte initial signature passes VerifyVoteExtension's upper
bound and reaches `sig[:64]`: a panic inside Prepare/ProcessProposal. -/
theorem C17_short_sig_counterexample (env : Env) :
    recoverOrPanic env (List.replicate 63 0) (List.replicate 63 0) = none := rfl

/-- **C17 (an attestation lands only in its sender's slot).** Writing an attestation of the validator with EVM address
`addr` into the slots of a snapshot changes no slot other than those whose member (in the validator set the slots are laid out
by) is `addr`, keeps the number of slots, and does write the signature into the sender's slot when it has one. -/
theorem C17_att_own_slot (set : List String) (slots : List Bytes) (addr : String) (sig : Bytes) :
    (placeAtt set slots addr sig).length = slots.length ∧
    (∀ i : Nat, (placeAtt set slots addr sig)[i]? ≠ slots[i]? → set[i]? = some addr) ∧
    (∀ i : Nat, i < slots.length → set[i]? = some addr → (placeAtt set slots addr sig)[i]? = some sig) := by
  refine ⟨length_placeAtt .., fun i h => ?_, fun i hi hs => ?_⟩
  · rw [getElem?_placeAtt] at h
    by_cases hs : set[i]? = some addr
    · exact hs
    · exact absurd (by simp [hs]) h
  · simp [getElem?_placeAtt, hs, List.getElem?_eq_getElem hi]

/-- **C17 (counterexample before fix c849ea3).** Laid out by the *last saved* set after a checkpoint swapped the order of two
validators, A's attestation for a snapshot taken under `[A, B]` lands in slot 0 of `[B, A]`'s layout … i.e. in slot 1 of the
snapshot's own set, which belongs to B. -/
theorem C17_att_slot_counterexample :
    let snapSet := ["A", "B"]; let lastSaved := ["B", "A"]
    (placeAtt lastSaved [[], []] "A" [1])[1]? = some [1] ∧ snapSet[1]? ≠ some "A" := by decide

end Layer.Proposal
