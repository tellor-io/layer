import LayerModel.Lemmas.Valset
import LayerModel.Lemmas.Abi
import LayerModel.Gen.SolAbi

/-!
# C16 — validator-set checkpoints form a chain an EVM light client can always follow

Model: `Layer.Valset` (current set, power difference, staleness, checkpoint creation, the contract's update rule with
abstract hashing and per-slot signature validity).
-/
namespace Layer.Valset

/-- **C16 (the set is exactly the registered validators with non-zero power, ordered).** The bridge validator set is a
permutation of the staking validators that have a registered EVM address and consensus power `⌊tokens/10^6⌋ > 0`
(with that power), ordered by descending power and then ascending address. -/
theorem C16_set_exact_sorted (vals : List SVal) (s : Set) (h : currentSet vals = some s) :
    s.Perm (vals.filterMap toBVal) ∧
    s.Pairwise (fun a b => vLe a b = true) ∧ s ≠ [] := by
  obtain ⟨hne, rfl⟩ := currentSet_eq_some.mp h
  exact ⟨List.mergeSort_perm _ _, List.pairwise_mergeSort (le := vLe) vLe_trans vLe_total _,
    fun hnil => hne (hnil ▸ (List.mergeSort_perm _ vLe).symm).eq_nil⟩

/-- **C16 (a new checkpoint exactly when …).** With a saved set `last` and a current set `cur`, the end blocker records a
new checkpoint iff the last checkpoint is stale or the sets differ with a relative power shift of at least 5 %
(`PowerDiff ≥ 50000`); with no saved set it always records one.  It never removes or alters earlier checkpoints. -/
theorem C16_new_iff (s : St) (vals : List SVal) (blockMs : Nat) (cur : Set) (s' : St)
    (hcur : currentSet vals = some cur) (h : endBlock s vals blockMs = some s') :
    (s.saved = none → s' = newCkpt s cur blockMs) ∧
    (∀ last st, s.saved = some last → stale s blockMs = some st →
      (s' = newCkpt s cur blockMs ↔ (st = true ∨ (last ≠ cur ∧ powerDiff last cur ≥ 50000)) ∨ s = newCkpt s cur blockMs) ∧
      (s' = s ∨ s' = newCkpt s cur blockMs)) := by
  refine ⟨fun hs => ?_, fun last st hs hst => ?_⟩
  · rw [endBlock_of_unsaved hcur hs] at h
    exact (Option.some.inj h).symm
  · rw [endBlock_of_saved hcur hs, hst] at h
    cases h
    dsimp only
    split
    next hC => exact ⟨⟨fun _ => .inl hC, fun _ => rfl⟩, .inr rfl⟩
    next hC => exact ⟨⟨.inr, fun h => h.resolve_left hC⟩, .inl rfl⟩

/-- `PowerDiff ≥ 50000` is "the summed absolute power changes are at least 5 % of the saved set's total" -/
theorem C16_powerdiff_five_percent (b c : Set) (hT : 0 < totalPower b) :
    powerDiff b c ≥ 50000 ↔ 20 * delta b c ≥ totalPower b := by
  have hd := delta_nonneg b c
  have hTp : (0 : Int) < (totalPower b : Int) := by omega
  rw [powerDiff, if_neg (by omega), Int.tdiv_eq_ediv_of_nonneg (by omega), ge_iff_le, Int.le_ediv_iff_mul_le hTp]
  omega

/-- the chain condition along the list of checkpoints: `prev` is the set of the checkpoint before the head (none at
the start), `i` the index the head must carry, `lt` the timestamp the head must exceed -/
def chainOK : Option Set → Nat → Option Nat → List Ckpt → Prop
  | _, _, _, [] => True
  | prev, i, lt, k :: ks =>
    k.idx = i ∧ (∀ t, lt = some t → t < k.ts) ∧
    k.slots = (match prev with | none => k.set.length | some p => p.length) ∧
    k.threshold = totalPower k.set * 2 / 3 ∧
    chainOK (some k.set) (i + 1) (some k.ts) ks

/-- a concatenation is a chain iff both parts are, the second one continuing from the last checkpoint of the first -/
theorem chainOK_append {l₁ l₂ : List Ckpt} {prev : Option Set} {i : Nat} {lt : Option Nat} :
    chainOK prev i lt (l₁ ++ l₂) ↔
      chainOK prev i lt l₁ ∧
      chainOK ((l₁.getLast?.map (·.set)).or prev) (i + l₁.length) ((l₁.getLast?.map (·.ts)).or lt) l₂ := by
  induction l₁ generalizing prev i lt with
  | nil => simp [chainOK]
  | cons x xs ih =>
    have e {β : Type} (f : Ckpt → β) (d : Option β) : ((x :: xs).getLast?.map f).or d = (xs.getLast?.map f).or (some (f x)) := by
      rw [List.getLast?_cons]; cases xs.getLast? <;> rfl
    simp only [List.cons_append, chainOK, ih, e, List.length_cons, and_assoc, Nat.add_assoc, Nat.add_comm 1]

/-- checkpoint chain invariant: indexes are contiguous from 0, timestamps strictly increase, each checkpoint's slot count is
the size of the previous checkpoint's set (its own for the first), each threshold is ⌊2·total/3⌋, and the saved set is the
last checkpoint's set -/
def ChainInv (s : St) : Prop :=
  chainOK none 0 none s.ckpts ∧ s.saved = (s.ckpts.getLast?).map (·.set)

/-- **C16 (indexes contiguous, timestamps strictly increasing, slots = previous set, consistent threshold).** The
invariant is preserved by every end blocker whose block time is later than all recorded checkpoints (block times strictly
increase; one end blocker per block). -/
theorem C16_chain_inv (s : St) (vals : List SVal) (blockMs : Nat) (s' : St) (hinv : ChainInv s)
    (hlater : ∀ k ∈ s.ckpts, k.ts < blockMs) (h : endBlock s vals blockMs = some s') : ChainInv s' := by
  rcases endBlock_cases h with rfl | ⟨cur, -, rfl⟩
  · exact hinv
  · -- the appended checkpoint against the last recorded one: index, timestamp, slots, threshold
    refine ⟨chainOK_append.mpr ⟨hinv.1, (Nat.zero_add _).symm, fun t ht => ?_, ?_, rfl, trivial⟩,
      by simp [newCkpt]⟩
    · obtain ⟨k, hk, rfl⟩ : ∃ k, s.ckpts.getLast? = some k ∧ k.ts = t := by simpa using ht
      exact hlater k (List.mem_of_getLast? hk)
    · cases s.ckpts.getLast? <;> rfl

/-- signed power of a slot assignment -/
def signedPower (vals : Set) (sigs : List (Option Bool)) : Nat :=
  ((vals.zip sigs).filter (fun p => p.2 == some true)).foldl (fun acc p => acc + p.1.power) 0

/-- **C16 (followable).** For consecutive checkpoints `k`, `k'` (any hash functions): if the submitted signatures have one
slot per member of `k`'s set, every present signature verifies, the signers hold more than two thirds of `k`'s total
power, `k'` is not older than `k` and its set has total power at least 2, then the contract's update rule accepts the
step from the state of `k` and ends in exactly the state of `k'`. -/
theorem C16_followable (H : Hash) (k k' : Ckpt) (sigs : List (Option Bool))
    (hthr : k.threshold = totalPower k.set * 2 / 3) (hthr' : k'.threshold = totalPower k'.set * 2 / 3)
    (hts : k.ts ≤ k'.ts) (htot' : 2 ≤ totalPower k'.set)
    (hlen : k.set.length = sigs.length) (hvalid : ∀ sg ∈ sigs, sg ≠ some false)
    (hpower : 3 * signedPower k.set sigs > 2 * totalPower k.set) :
    updateValidatorSet H (cstateOf H k) (H.set k'.set) k'.threshold k'.ts k.set sigs = some (cstateOf H k') := by
  refine updateValidatorSet_eq_some.mpr ⟨hlen, hts, ?_, rfl, checkSigs_go_ok hvalid ?_, rfl⟩
  · rw [hthr']; omega
  · show k.threshold ≤ signedPower k.set sigs
    rw [hthr]; omega

/-! ### tie of the contract model to evm/contracts/bridge/BlobstreamO.sol (table regenerated on every run) -/

/-- **C16 (the contract model is the contract).** The guard conditions and the control/effect skeleton of
`updateValidatorSet` and `_checkValidatorSignatures`, as scanned from the Solidity source on this run, are the ones
`Valset.updateValidatorSet` / `Valset.checkSigs` model branch by branch: length mismatch, timestamp decrease, zero
threshold, checkpoint mismatch (hash of the supplied set under the *stored* threshold and timestamp), signature check against
the *stored* threshold; in the loop: nil signature → continue, invalid → revert, add power, `≥ threshold` → break; after the
loop `< threshold` → revert; then the three state assignments.  (The first guard of `_checkValidatorSignatures`, the
unbonding-period staleness against the EVM clock, is outside the model: see DESIGN.md.) -/
theorem C16_contract_tie :
    Abi.lookup Gen.solAbi ["BlobstreamO.sol", "updateValidatorSet", "zz", "conditions"] =
      some "_currentValidatorSet.length != _sigs.length ;; _newValidatorTimestamp < validatorTimestamp ;; _newPowerThreshold == 0 ;; _domainSeparateValidatorSetHash( powerThreshold, validatorTimestamp, _currentValidatorSetHash ) != lastValidatorSetCheckpoint" ∧
    Abi.lookup Gen.solAbi ["BlobstreamO.sol", "updateValidatorSet", "zz", "flow"] =
      some "if ;; revert MalformedCurrentValidatorSet ;; if ;; revert ValidatorTimestampMustIncrease ;; if ;; revert InvalidPowerThreshold ;; let _currentValidatorSetHash = keccak256(abi.encode(_currentValidatorSet)) ;; if ;; revert SuppliedValidatorSetInvalid ;; let _newCheckpoint = _domainSeparateValidatorSetHash( _newPowerThreshold, _newValidatorTimestamp, _newValidatorSetHash ) ;; call _checkValidatorSignatures(_currentValidatorSet, _sigs, _newCheckpoint, powerThreshold) ;; lastValidatorSetCheckpoint = _newCheckpoint ;; powerThreshold = _newPowerThreshold ;; validatorTimestamp = _newValidatorTimestamp" ∧
    Abi.lookup Gen.solAbi ["BlobstreamO.sol", "_checkValidatorSignatures", "zz", "conditions"] =
      some "block.timestamp - (validatorTimestamp / 1000) > unbondingPeriod ;; _sigs[_i].r == 0 && _sigs[_i].s == 0 && _sigs[_i].v == 0 ;; !_verifySig(_currentValidators[_i].addr, _digest, _sigs[_i]) ;; _cumulativePower >= _powerThreshold ;; _cumulativePower < _powerThreshold" ∧
    Abi.lookup Gen.solAbi ["BlobstreamO.sol", "_checkValidatorSignatures", "zz", "flow"] =
      some "if ;; revert StaleValidatorSet ;; let _cumulativePower = 0 ;; for uint256 _i = 0; _i < _currentValidators.length; _i++ ;; if ;; continue ;; if ;; call _verifySig(_currentValidators[_i].addr, _digest, _sigs[_i]) ;; revert InvalidSignature ;; _cumulativePower += _currentValidators[_i].power ;; if ;; break ;; if ;; revert InsufficientVotingPower" :=
  ⟨rfl, rfl, rfl, rfl⟩

/-- **C16 / C02 (the bridge end blocker cannot fail).** Whenever a set is saved there is a checkpoint with a positive timestamp
not later than the block (the chain invariant gives that), and then the end blocker returns a state for every staking validator
list — including the list in which no bonded validator has registered an EVM address (fix cae414c). -/
theorem C16_endblock_total (s : St) (vals : List SVal) (blockMs : Nat)
    (h : s.saved.isSome = true → ∃ k ∈ s.ckpts, 0 < k.ts ∧ k.ts ≤ blockMs) : (endBlock s vals blockMs).isSome = true := by
  cases hc : currentSet vals with
  | none => rw [endBlock_of_no_set hc]; rfl
  | some cur =>
    cases hs : s.saved with
    | none => rw [endBlock_of_unsaved hc hs]; rfl
    | some last =>
      obtain ⟨k, hk, hpos, hle⟩ := h (by rw [hs]; rfl)
      rw [endBlock_of_saved hc hs, Option.isSome_map]
      exact stale_isSome hk hpos hle

end Layer.Valset
