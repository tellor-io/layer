import LayerModel.Lemmas.OracleBlock
import LayerModel.Props.C12
import LayerModel.Chain.Unbond

/-!
# C02 — no accepted transaction sequence can make block processing fail

The whole-chain statement is decided by the chain-mode search (family `nohalt`: the real application,
every message type, hostile field values, block gaps from 1 ms to beyond 21 days; oracle: every block is
produced).  The theorems below cover the failure sites on the begin/end-block paths one by one — each
was a way to halt the chain at the pinned commit, found by that search and repaired (see known_findings.txt).
-/
namespace Layer.OracleBlock
open Layer

/-- **C02 (cycle list pointer).** Over any sequence of rotations and governance replacements (accepted or
rejected), starting from a non-empty list, the list stays non-empty and the current-query lookup of the end
blocker always succeeds — for every sequencer value, including one left beyond a shorter new list. -/
theorem C02_cyclelist_total (hasSpec : String → Bool) (ops : List Op) (c : Cycle) (h : c.list ≠ []) :
    (ops.foldl (step hasSpec) c).list ≠ [] ∧ (current (ops.foldl (step hasSpec) c)).isSome = true := by
  have hne : (ops.foldl (step hasSpec) c).list ≠ [] :=
    List.foldlRecOn (motive := fun c : Cycle => c.list ≠ []) ops _ h fun _ h op _ => step_list_ne_nil hasSpec h op
  exact ⟨hne, current_isSome hne⟩

/-- **C02 (counterexample before fix 82aad11).** Three entries, pointer at 2, replaced by one entry: the
unclamped lookup is out of range. -/
theorem C02_cyclelist_shrink_counterexample :
    currentOld { list := ["q"], seq := 2 } = none ∧ (current { list := ["q"], seq := 2 }).isSome = true := by decide

/-- **C02 (an accepted value always parses at aggregation time).** Whatever hex string `SubmitValue` accepts
(optional `0x`/`0X` prefix, at least one byte), the weighted median's base-16 parse of the stored value
succeeds — so the oracle end blocker cannot fail with "failed to parse value". -/
theorem C02_accepted_value_parses (v : String) (h : accepted v = true) :
    (Agg.parseHex (Agg.strip0x v)).isSome = true := by
  unfold accepted at h
  split at h
  · rename_i bs hb
    refine parseHex_isSome (fun e => ?_) (ofHexChars_all_hex hb)
    -- the empty string decodes to no bytes, which `accepted` refuses
    rw [Bytes.ofHex?, e] at hb
    cases hb
    cases h
  · cases h

/-- **C02 (counterexample before fix a90eb09).** `0x0a` is accepted but the unstripped parse fails. -/
theorem C02_value_0x_counterexample : accepted "0x0a" = true ∧ Agg.parseHex "0x0a" = none := by decide

/-- **C02 (mint outputs).** For every positive provision every output handed to the bank module carries a
positive amount, and together they are the provision (so `InputOutputCoins` is never given empty coins). -/
theorem C02_mint_outputs_positive (minted : Int) (h : 0 < minted) :
    (∀ o ∈ mintOutputs minted, 0 < o.2) ∧ ((mintOutputs minted).map (·.2)).sum = minted := by
  unfold mintOutputs Supply.toTbr Supply.quarter
  rw [Int.tdiv_eq_ediv_of_nonneg (Int.le_of_lt h)]
  -- with or without the quarter's output, what is left is linear arithmetic about `minted / 4`
  split <;> simp <;> omega

/-- **C02 (counterexample before fix 3e03500).** A provision of 3 loya (block gap 2 ms) produced an output of
zero coins, which the bank module rejects — the begin blocker failed. -/
theorem C02_mint_zero_quarter_counterexample : ∃ o ∈ mintOutputsOld 3, o.2 = 0 :=
  ⟨("fee_collector", 0), .tail _ (.head _), rfl⟩

/-- **C02 (the dispute begin-blocker's tally cannot fail).** Restated from C12. -/
theorem C02_tally_total (x : Tally.Input) (h : x.periodEnded = true) : ∃ r resolved, Tally.tally x = .tallied r resolved :=
  Tally.C12_tally_total x h

end Layer.OracleBlock

namespace Layer.Unbond

/-- **C02 (returning escrowed stake cannot fail in the begin blocker).** Whatever became of the validator an escrow entry came from —
removed, jailed, tombstoned, slashed to zero tokens with shares left — the validator the stake is re-delegated to accepts the
delegation, as long as the fallback (the first bonded validator) does. -/
theorem C02_return_target_accepts (orig : Option Val) (fallback : Val) (h : invalidExRate fallback = false) :
    invalidExRate (returnTarget orig fallback) = false := by
  unfold returnTarget
  cases orig with
  | none => exact h
  | some v =>
    by_cases hv : invalidExRate v = true
    · simp [hv, h]
    · simp [hv]

/-- a bonded validator carries voting power, hence tokens: it always accepts -/
theorem C02_bonded_accepts (v : Val) (h : 0 < v.tokens) : invalidExRate v = false := by
  unfold invalidExRate
  have : (v.tokens == 0) = false := by simp; omega
  simp [this]

/-- **C02 (counterexample before the fix).** A validator whose stake was escrowed by a major dispute and whose remaining 6 000 002
loya were burned by double-sign evidence keeps its shares: the old target is that validator, and the delegation — made from the
dispute module's begin blocker when the dispute ends invalid — is refused, which fails the block. -/
theorem C02_return_target_counterexample :
    invalidExRate (returnTargetOld (some ⟨0, 6000002000000000000000000⟩) ⟨1003662191, 1003662191000000000000000000⟩) = true ∧
    invalidExRate (returnTarget (some ⟨0, 6000002000000000000000000⟩) ⟨1003662191, 1003662191000000000000000000⟩) = false := by decide

end Layer.Unbond
