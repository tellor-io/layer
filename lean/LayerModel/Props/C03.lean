import LayerModel.Chain.Supply
import LayerModel.Gen.Formulas
import LayerModel.Gen.MintBurnSites
import LayerModel.Gen.MaccPerms

/-!
# C03 — token supply changes only by the documented, exactly quantified events

Model: `Layer.Supply.block` — the mint begin-blocker and the documented supply events of a block.
The frame condition ("every other operation leaves total supply unchanged") is the correspondence run:
the real application's total supply after every block of generated histories (all message types) must
equal the model's prediction from the documented events alone; the call-site table below shows which
functions can mint or burn at all.
-/
namespace Layer.Supply

/-- **C03 (formulas are the code's).** Block provision and tip burn as regenerated from the source. -/
theorem C03_formulas :
    (∀ c p, provision c p = Layer.Gen.mintProvision c p) ∧ (∀ a, tipBurn a = Layer.Gen.tipBurn a) :=
  ⟨fun _ _ => rfl, fun _ => rfl⟩

/-- **C03 (no minting before governance starts it; none in the first block after).** -/
theorem C03_no_mint_before_init (m : Mint) (t : Int) :
    (m.init = false → (beginBlock m t).1 = 0 ∧ (beginBlock m t).2 = m) ∧
    (m.prev = none → (beginBlock m t).1 = 0) := by
  constructor
  · intro h; simp [beginBlock, h]
  · intro h; unfold beginBlock; split <;> simp [h]

/-- **C03 (split).** Three quarters (the remainder after the truncated quarter) go to the reporter reward
pool and one quarter to the fee pool; together exactly the minted amount. -/
theorem C03_mint_split (minted : Int) : toTbr minted + quarter minted = minted := by
  unfold toTbr; omega

/-- for non-decreasing block times both truncating divisions of the provision are floor divisions -/
theorem provision_eq_ediv (c p : Int) (h : p ≤ c) :
    provision c p = 146940000 * ((c - p) / 1000000) / 86400000 := by
  unfold provision msPerDay dailyMintRate
  rw [Int.tdiv_eq_ediv_of_nonneg (a := c - p) (by omega), Int.tdiv_eq_ediv_of_nonneg (by omega)]

/-- one block never mints more than the daily rate times the elapsed time (in exact arithmetic:
`msPerDay · 10^6 · minted ≤ rate · Δns`) -/
theorem provision_le (c p : Int) (h : p ≤ c) :
    msPerDay * 1000000 * provision c p ≤ dailyMintRate * (c - p) := by
  rw [provision_eq_ediv c p h]; unfold msPerDay dailyMintRate; omega

theorem provision_nonneg (c p : Int) (h : p ≤ c) : 0 ≤ provision c p := by
  rw [provision_eq_ediv c p h]; omega

/-- total minted over a sequence of block times, starting from minter `m` -/
def mintedOver : Mint → List Int → Int
  | _, [] => 0
  | m, t :: ts => (beginBlock m t).1 + mintedOver (beginBlock m t).2 ts

/-- a minter that governance has not started mints nothing, however many blocks pass -/
theorem mintedOver_of_not_init (m : Mint) (h : m.init = false) : ∀ ts, mintedOver m ts = 0
  | [] => rfl
  | t :: ts => by simp [mintedOver, beginBlock, h, mintedOver_of_not_init m h ts]

/-- **C03 (inflation bound).** Over any sequence of non-decreasing block times after the minter's previous
block time `p`, cumulative minting never exceeds the daily rate times the elapsed time — for every number of
blocks and every spacing (sub-millisecond gaps mint nothing, truncation only loses). -/
theorem C03_inflation_bound (ts : List Int) : ∀ (m : Mint) (p : Int), m.prev = some p →
    (List.Pairwise (· ≤ ·) (p :: ts)) →
    msPerDay * 1000000 * mintedOver m ts ≤ dailyMintRate * ((p :: ts).getLast (by simp) - p) := by
  induction ts with
  | nil => intro m p _ _; simp [mintedOver]
  | cons t ts ih =>
    intro m p hp hs
    obtain ⟨hpt, hs'⟩ := List.pairwise_cons.mp hs
    have hlast : p ≤ (t :: ts).getLast (by simp) := hpt _ (List.getLast_mem _)
    rw [List.getLast_cons (by simp)]
    cases hi : m.init with
    | false => rw [mintedOver_of_not_init m hi]; unfold dailyMintRate; omega
    | true =>
      have hb : beginBlock m t = (provision t p, { m with prev := some t }) := by
        simp [beginBlock, hi, hp, Int.not_lt.mpr (hpt t (by simp))]
      have ih' := ih { m with prev := some t } t rfl hs'
      have h1 := provision_le t p (hpt t (by simp))
      simp only [mintedOver, hb]
      unfold msPerDay dailyMintRate at *; omega

/-- **C03 (supply step).** The supply after a block is the supply before plus the block provision plus the
documented deltas of the block's events — nothing else enters the model's ledger. -/
theorem C03_supply_step (s : St) (t : Int) (evs : List Ev) :
    (block s t evs).1.supply = s.supply + (beginBlock s.mint t).1 + (evs.map evDelta).sum := by
  simp [block]; omega

/-- every call site of `MintCoins` / `BurnCoins` in the consensus packages at the verified commit:
mint — `ClaimDeposit` (bridge) and the mint begin-blocker (through `Keeper.MintCoins`);
burn — `WithdrawTokens` (bridge), `ExecuteVote` ×3 and `WithdrawFeeRefund` (dispute), `transfer` (oracle tip). -/
def expectedMintBurnSites : List (List String) := [

  ["x/bridge/keeper/claim_deposit.go", "Keeper.ClaimDeposit", "MintCoins", "k.bankKeeper", "bridge"],
  ["x/bridge/keeper/withdraw_tokens.go", "Keeper.WithdrawTokens", "BurnCoins", "k.bankKeeper", "bridge"],
  ["x/dispute/keeper/execute.go", "Keeper.ExecuteVote", "BurnCoins", "k.bankKeeper", "dispute"],
  ["x/dispute/keeper/execute.go", "Keeper.ExecuteVote", "BurnCoins", "k.bankKeeper", "dispute"],
  ["x/dispute/keeper/execute.go", "Keeper.ExecuteVote", "BurnCoins", "k.bankKeeper", "dispute"],
  ["x/dispute/keeper/msg_server_withdraw_fee_refund.go", "msgServer.WithdrawFeeRefund", "BurnCoins", "k.bankKeeper", "dispute"],
  ["x/mint/abci.go", "MintBlockProvision", "MintCoins", "k", "toMintCoins"],
  ["x/mint/keeper/keeper.go", "Keeper.MintCoins", "MintCoins", "k.bankKeeper", "mint"],
  ["x/oracle/keeper/tip.go", "Keeper.transfer", "BurnCoins", "k.bankKeeper", "oracle"]
]

/-- **C03 (mint/burn call sites).** Regenerated from the source on every run: a new place that mints or
burns, or one that moved to another module account, fails here. -/
theorem C03_sites : Layer.Gen.mintBurnSites = expectedMintBurnSites := rfl

def expectedMaccPerms : List (List String) := [

  ["bonded_tokens_pool", "burner staking"],
  ["bridge", "burner minter"],
  ["dispute", "burner minter staking"],
  ["distribution", ""],
  ["fee_collector", ""],
  ["gov", "burner"],
  ["interchainaccounts", ""],
  ["interchainquery", ""],
  ["mint", "minter"],
  ["not_bonded_tokens_pool", "burner staking"],
  ["oracle", "burner minter staking"],
  ["reporter", ""],
  ["time_based_rewards", ""],
  ["tips_escrow_pool", ""],
  ["transfer", "burner minter"]
]

/-- **C03 (module-account permissions).** The permission table of app/app.go, constants resolved. -/
theorem C03_macc_perms : Layer.Gen.maccPerms = expectedMaccPerms := rfl

/-- non-vacuity: two blocks 1.5 s apart after initialisation mint ⌊146940000·1500/86400000⌋ = 2551 -/
example : (beginBlock { init := true, prev := some 1000000000 } 2500000000).1 = 2551 := by decide

end Layer.Supply
