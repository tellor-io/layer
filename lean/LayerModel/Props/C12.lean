import Mathlib.Tactic.Ring
import LayerModel.Lemmas.Tally
import LayerModel.Lemmas.Lifecycle
import LayerModel.Lemmas.Assoc
import LayerModel.Gen.Formulas

/-!
# C12 — dispute lifecycle, voting power and tally follow the specified rules (tally part)

Model: `Layer.Tally.tally` (`TallyVote` + `UpdateDispute`'s choice), `Layer.Tally.ratio` (`Ratio`).
The lifecycle / vote-accounting theorems (models `Chain/Lifecycle.lean`) are the second half of this file.
-/
namespace Layer.Tally
open Layer

/-- **C12 (the quorum-share formula is the code's).** `Ratio` as regenerated from
x/dispute/keeper/tally.go on every run (with `total = total.MulRaw(4)` followed through). -/
theorem C12_ratio_formula (total part : Int) (h : total ≠ 0) :
    ratio total part = Dec.truncateInt (Layer.Gen.ratio total part powerReduction) := by
  simp [ratio, h, Layer.Gen.ratio]

/-- **C12 (the tally is decided for every vote distribution).** Once the voting period has ended the
tally produces a result for every input — every combination of group counts (ties included), totals
(zero included), team vote and supply. -/
theorem C12_tally_total (x : Input) (h : x.periodEnded = true) : ∃ r resolved, tally x = .tallied r resolved := by
  obtain ⟨s, a, i, s', a', i', e⟩ := tally_eq x
  rw [e, if_pos h]
  by_cases h1 : quorumShare x ≥ quorumLine
  · exact ⟨_, _, if_pos h1⟩
  rw [if_neg h1]
  by_cases h2 : quorumShare x + ratio x.supply x.holders.sum ≥ quorumLine
  · exact ⟨_, _, if_pos h2⟩
  rw [if_neg h2]
  cases x.hasVoters <;> exact ⟨_, _, rfl⟩

/-- **C12 (the choice rule).** The recorded result is the strict maximum of the three scaled sums; when no
choice is a strict maximum (the leaders tie) the round is decided as invalid. -/
theorem C12_pick_spec (s a i : Int) (q : Bool) :
    (s > a ∧ s > i → pick s a i q = if q then .support else .nqSupport) ∧
    (a > s ∧ a > i → pick s a i q = if q then .against else .nqAgainst) ∧
    (¬ (s > a ∧ s > i) ∧ ¬ (a > s ∧ a > i) → pick s a i q = if q then .invalid else .nqInvalid) := by
  refine ⟨fun h => ?_, fun h => ?_, fun h => ?_⟩
  · simp [pick, h]
  · have : ¬ (s > a ∧ s > i) := by omega
    simp [pick, this, h]
  · simp [pick, h.1, h.2]

/-- **C12 (counterexample for the code before fix d00fbe3).** Two equal opposite weights: the old choice
rule returns the error "no majority" — from the dispute begin-blocker this failed the block. -/
theorem C12_tally_tie_counterexample : pickOld 500000 500000 0 false = none := by decide

/-- the new rule extends the old one: wherever the old rule decided, the result is unchanged -/
theorem C12_pick_extends_old (s a i : Int) (q : Bool) (r : Result) (h : pickOld s a i q = some r) :
    pick s a i q = r := by
  unfold pickOld at h
  unfold pick
  by_cases h1 : s > a ∧ s > i
  · simp only [h1, and_self, ↓reduceIte, Option.some.injEq] at h ⊢; exact h
  · by_cases h2 : a > s ∧ a > i
    · simp only [h1, h2, and_self, ↓reduceIte, Option.some.injEq] at h ⊢; exact h
    · by_cases h3 : i > s ∧ i > a
      · simp only [h1, h2, h3, and_self, ↓reduceIte, Option.some.injEq] at h ⊢; exact h
      · simp [h1, h2, h3] at h

/-- **C12 (quorum is 51 % of the four 25 % group weights).** A quorum result is recorded exactly when the
accumulated share — team 25·10^6 if it voted, plus `Ratio` of each group that is counted — reaches
51·10^6, first without and then with the token holders. -/
theorem C12_quorum_iff (x : Input) :
    let r1 := (teamAcc x.team).ratio + (if x.users.sum > 0 then ratio x.totalTips x.users.sum else 0) +
              ratio x.totalPower x.reporters.sum
    let r2 := r1 + ratio x.supply x.holders.sum
    (r1 ≥ quorumLine ∨ r2 ≥ quorumLine) ↔
      ∃ r, tally x = .tallied r true ∧ (r = .support ∨ r = .against ∨ r = .invalid) := by
  obtain ⟨s, a, i, s', a', i', e⟩ := tally_eq x
  show quorumShare x ≥ quorumLine ∨ quorumShare x + ratio x.supply x.holders.sum ≥ quorumLine ↔ _
  rw [e]
  by_cases h1 : quorumShare x ≥ quorumLine
  · rw [if_pos h1]
    exact iff_of_true (.inl h1) ⟨_, rfl, (pick_quorum_iff ..).mpr rfl⟩
  rw [if_neg h1]
  by_cases h2 : quorumShare x + ratio x.supply x.holders.sum ≥ quorumLine
  · rw [if_pos h2]
    exact iff_of_true (.inr h2) ⟨_, rfl, (pick_quorum_iff ..).mpr rfl⟩
  rw [if_neg h2]
  refine iff_of_false (not_or.mpr ⟨h1, h2⟩) fun ⟨r, hr, hres⟩ => ?_
  -- without a quorum the recorded result, if any, is `nqInvalid` or comes from `pick … false`
  split at hr
  · split at hr <;> injection hr with e _ <;> subst e
    · simp at hres
    · exact absurd ((pick_quorum_iff ..).mp hres) (by decide)
  · cases hr

/-- **C12 (counterexample, recorded finding `tally-holders-ignored`).** Team votes invalid, every tipper
votes support, every reporter votes against: the three groups reach the quorum line (75 % ≥ 51 %), the
tally is taken from them alone — a three-way tie, decided invalid — although token holders holding the
whole supply voted against, which makes *against* the strict maximum of the four-group sums (2 vs 1 vs 1). -/
theorem C12_tokenholders_ignored_counterexample :
    let x : Input := { team := some .invalid, users := ⟨5, 0, 0⟩, reporters := ⟨0, 7, 0⟩, holders := ⟨0, 9, 0⟩,
                       totalTips := 5, totalPower := 7, supply := 9, periodEnded := false, disputeEnded := false, hasVoters := true }
    tally x = .tallied .invalid true ∧ x.holders.a = 9 ∧ x.holders.sum = 9 := by decide

end Layer.Tally

/-! ### life cycle and vote bookkeeping -/
namespace Layer.Lifecycle

/-- **C12 (no way back).** Every transition the code performs raises the rank of the status, so a dispute record never returns to
an earlier status, never passes through the same transition twice, and changes status at most three times. -/
theorem C12_transitions_progress (a b : Status) (h : next a b = true) : rank a < rank b := by
  revert h; cases a <;> cases b <;> decide

/-- a status history in which every step is a transition of the code -/
def History : List Status → Prop
  | [] => True
  | [_] => True
  | a :: b :: rest => next a b = true ∧ History (b :: rest)

theorem history_bound : ∀ (l : List Status) (s : Status), History (s :: l) → (s :: l).length + rank s ≤ 4
  | [], s, _ => by cases s <;> simp [rank]
  | y :: ys, s, h => by
    obtain ⟨hxy, hrest⟩ := h
    have hr := C12_transitions_progress s y hxy
    have := history_bound ys y hrest
    simp only [List.length_cons] at this ⊢
    omega

theorem C12_no_cycle (l : List Status) (h : History l) : l.length ≤ 4 := by
  cases l with
  | nil => simp
  | cons x xs => have := history_bound xs x h; omega

/-- the recorded voters are pairwise distinct and each group's counters add up to the recorded powers of that group -/
def Consistent (r : Round) : Prop :=
  (r.votes.map (·.voter)).Nodup ∧
  r.users.total = (r.votes.map (·.user)).sum ∧ r.reporters.total = (r.votes.map (·.reporter)).sum ∧ r.holders.total = (r.votes.map (·.holder)).sum

/-- **C12 (one vote per address and round; the group counters are the sums of the recorded votes).** Every accepted
vote keeps both. -/
theorem C12_vote_consistent (r r' : Round) (v : V) (hc : Consistent r) (h : vote r v = some r') : Consistent r' := by
  obtain ⟨hnew, -, rfl⟩ := vote_eq_some.mp h
  obtain ⟨h1, h2, h3, h4⟩ := hc
  exact ⟨Assoc.nodup_append_of_not_mem V.voter h1 hnew, by simp [add_total, h2], by simp [add_total, h3], by simp [add_total, h4]⟩

/-- **C12 (one vote per address and round).** After an accepted vote every further vote from the same address is
rejected in that round. -/
theorem C12_second_vote_rejected (r r' : Round) (v w : V) (h : vote r v = some r') (hw : w.voter = v.voter) : vote r' w = none := by
  obtain ⟨-, -, rfl⟩ := vote_eq_some.mp h
  exact Option.eq_none_iff_forall_ne_some.mpr fun _ e => (vote_eq_some.mp e).1 (by simp [hw])

/-- **C12 (the round fee doubles and is capped).** -/
theorem C12_round_fee (slash : Int) (round : Nat) (h : 0 ≤ slash) :
    roundFee slash round ≤ slash ∧ (slash / 20 * (2 ^ round : Nat) ≤ slash → roundFee slash (round + 1) = min slash (2 * roundFee slash round)) := by
  -- the uncapped fee of the next round is twice this round's; the rest is about that one number and the cap
  have e : slash / 20 * ((2 ^ (round + 1) : Nat) : Int) = 2 * (slash / 20 * ((2 ^ round : Nat) : Int)) := by
    rw [Nat.pow_succ, Int.natCast_mul, ← Int.mul_assoc, Int.mul_comm]; rfl
  unfold roundFee
  dsimp only
  rw [e]
  generalize slash / 20 * ((2 ^ round : Nat) : Int) = f
  constructor
  · split <;> omega
  · intro hle
    rw [if_neg (Int.not_lt.mpr hle)]
    split <;> omega

end Layer.Lifecycle
