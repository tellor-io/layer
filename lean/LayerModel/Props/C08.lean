import LayerModel.Props.C07

/-!
# C08 — aggregate history is append-only, time-ordered and correctly retrievable

Model: the `aggs` list of `Layer.Oracle.S` in creation order; `hist s q` is query `q`'s chronological list.
The getters are the code's range walks; the theorems relate them to that list.  On the real application the same
getters are probed after every history (timestamps before / between / equal / after stored ones, indexes in and out
of range) and compared with the model (family `oracle8`).
-/
namespace Layer.Oracle
open Layer

/-- **C08 (append only).** Storing an aggregate under a fresh key (no aggregate of that query at this block time)
appends it to that query's chronological list and leaves every other query's list — and every stored entry —
unchanged. -/
theorem C08_append_only (s : S) (a : Agg) (hfresh : ∀ x ∈ s.aggs, ¬ (x.qid = a.qid ∧ x.ts = a.ts)) (qid : String) :
    hist { s with aggs := setAgg s.aggs a } qid = hist s qid ++ (if a.qid == qid then [a] else []) := by
  simp only [hist, setAgg_fresh hfresh, List.filter_append, List.filter_cons, List.filter_nil]

/-- **C08 (sequence numbers increase by one).** Both writers of aggregates — round aggregation and bridge
withdrawals — store the query's previous sequence number plus one. -/
theorem C08_nonce_succ (s : S) (h ts : Nat) (q : Query) (s' : S) (hagg : aggregateOne s h ts q = some s') :
    ∃ a ∈ s'.aggs, a.qid = q.qid ∧ a.nonce = nonceOf s.nonces q.qid + 1 ∧ nonceOf s'.nonces q.qid = nonceOf s.nonces q.qid + 1 := by
  obtain ⟨a, rfl⟩ := aggregateOne_some hagg
  exact ⟨_, mem_setAgg_self, rfl, rfl, nonceOf_setNonce⟩

def TsSorted (s : S) : Prop := ∀ qid, (hist s qid).Pairwise (fun a b => a.ts < b.ts)

/-- **C08 (timestamps strictly increase in creation order).** If every stored aggregate of the query is older than
the block time (block times strictly increase and a query aggregates at most once per block), appending keeps each
query's list strictly increasing. -/
theorem C08_ts_strict (s : S) (a : Agg) (hs : TsSorted s) (hnew : ∀ x ∈ hist s a.qid, x.ts < a.ts) :
    TsSorted { s with aggs := setAgg s.aggs a } := by
  have hfresh : ∀ x ∈ s.aggs, ¬ (x.qid = a.qid ∧ x.ts = a.ts) := fun x hx ⟨h1, h2⟩ =>
    Nat.ne_of_lt (hnew x (List.mem_filter.mpr ⟨hx, by simp [h1]⟩)) h2
  intro qid
  rw [C08_append_only s a hfresh qid]
  by_cases hq : a.qid = qid
  · subst hq
    rw [if_pos (beq_self_eq_true _)]
    exact List.pairwise_append.mpr
      ⟨hs _, List.pairwise_singleton _ _, fun x hx y hy => List.mem_singleton.mp hy ▸ hnew x hx⟩
  · rw [if_neg (by simpa using hq), List.append_nil]
    exact hs qid

/-- **C08 (flagging alters nothing but the flag).** `FlagAggregateReport` leaves the list of aggregates unchanged
up to the `flagged` field, and only sets it (an entry that was flagged stays flagged). -/
theorem C08_flag_only_flag (s : S) (qid : String) (micro : Nat) (reporter : String) :
    (flag s qid micro reporter).aggs.map (fun a => { a with flagged := false }) = s.aggs.map (fun a => { a with flagged := false }) ∧
    (flag s qid micro reporter).aggs.map (fun a => a.flagged || true) = s.aggs.map (fun a => a.flagged || true) ∧
    ∀ a ∈ s.aggs, a.flagged = true → ∃ b ∈ (flag s qid micro reporter).aggs, b.qid = a.qid ∧ b.ts = a.ts ∧ b.flagged = true := by
  unfold flag
  dsimp only
  split
  · exact ⟨rfl, rfl, fun a ha hf => ⟨a, ha, rfl, rfl, hf⟩⟩
  · refine ⟨?_, ?_, fun a ha hf => ⟨_, List.mem_map_of_mem ha, ?_⟩⟩
    · rw [List.map_map]
      exact List.map_congr_left fun x _ => by simp only [Function.comp]; split <;> rfl
    · rw [List.map_map]
      exact List.map_congr_left fun x _ => by simp only [Function.comp, Bool.or_true]
    · split <;> simp [hf]

/-- **C08 ('current' is the last of the chronological list).** -/
theorem C08_current_is_last (s : S) (qid : String) : getCurrent s qid = (hist s qid).getLast? := rfl

/-- **C08 ('data before T' is the latest unflagged entry strictly before T).** With strictly increasing
timestamps the returned entry is unflagged, older than `T`, and no unflagged entry older than `T` is newer. -/
theorem C08_before_skips_flagged (s : S) (hs : TsSorted s) (qid : String) (t : Nat) (a : Agg)
    (h : getBefore s qid t = some a) :
    a ∈ hist s qid ∧ a.ts < t ∧ a.flagged = false ∧
    ∀ b ∈ hist s qid, b.ts < t → b.flagged = false → b.ts ≤ a.ts := by
  obtain ⟨ha, hp, hmax⟩ := getLast?_filter_max (hs qid) h
  simp only [Bool.and_eq_true, decide_eq_true_eq, Bool.not_eq_true'] at hp
  exact ⟨ha, hp.1, hp.2, fun b hb hbt hbf => hmax b hb (by simp [hbt, hbf])⟩

/-- **C08 (timestamp before / after).** `GetTimestampBefore(T)` is the greatest stored timestamp below `T` and
`GetTimestampAfter(T)` the least above `T` (0 when there is none). -/
theorem C08_ts_before_after (s : S) (hs : TsSorted s) (qid : String) (t : Nat) :
    (∀ b ∈ hist s qid, b.ts < t → b.ts ≤ tsBefore s qid t) ∧
    (tsBefore s qid t ≠ 0 → ∃ a ∈ hist s qid, a.ts = tsBefore s qid t ∧ a.ts < t) ∧
    (∀ b ∈ hist s qid, b.ts > t → tsAfter s qid t ≠ 0 ∨ b.ts = 0) ∧
    (tsAfter s qid t ≠ 0 → ∃ a ∈ hist s qid, a.ts = tsAfter s qid t ∧ a.ts > t ∧ ∀ b ∈ hist s qid, b.ts > t → a.ts ≤ b.ts) := by
  -- the first two conjuncts speak of `tsBefore`, the last two of `tsAfter`
  rw [← and_assoc]
  constructor
  · unfold tsBefore
    cases hl : ((hist s qid).filter fun a => decide (a.ts < t)).getLast? with
    | none =>
      have hno := List.filter_eq_nil_iff.mp (List.getLast?_eq_none_iff.mp hl)
      exact ⟨fun b hb hbt => absurd (decide_eq_true hbt) (hno b hb), fun hne => absurd rfl hne⟩
    | some a =>
      obtain ⟨ha, hat, hmax⟩ := getLast?_filter_max (hs qid) hl
      exact ⟨fun b hb hbt => hmax b hb (decide_eq_true hbt), fun _ => ⟨a, ha, rfl, of_decide_eq_true hat⟩⟩
  · unfold tsAfter
    cases hl : ((hist s qid).filter fun a => decide (a.ts > t)).head? with
    | none =>
      have hno := List.filter_eq_nil_iff.mp (List.head?_eq_none_iff.mp hl)
      exact ⟨fun b hb hbt => absurd (decide_eq_true hbt) (hno b hb), fun hne => absurd rfl hne⟩
    | some a =>
      obtain ⟨ha, hat, hmin⟩ := head?_filter_min (hs qid) hl
      have hat : a.ts > t := of_decide_eq_true hat
      exact ⟨fun _ _ _ => .inl (Nat.ne_of_gt (Nat.zero_lt_of_lt hat)),
        fun _ => ⟨a, ha, rfl, hat, fun b hb hbt => hmin b hb (decide_eq_true hbt)⟩⟩

/-- **C08 (by index).** `GetAggregateByIndex(i)` is the `i`-th entry of the chronological list. -/
theorem C08_by_index (s : S) (qid : String) (i : Nat) : getByIndex s qid i = (hist s qid)[i]? := rfl

end Layer.Oracle
