import LayerModel.Lemmas.Aggregate

/-!
# C06 — the aggregate is the true weighted median / weighted mode of the reports

Model: `Layer.Agg.weightedMedian`, `Layer.Agg.weightedMode` (Chain/Aggregate.lean).
`val r` is the numeric value of a report (`big.Int.SetString(value, 16)`), `psum` the total power,
`powerBelow rs a` / `powerUpTo rs a` the power of the reports with value `< a` / `≤ a`.
-/
namespace Layer.Agg

/-- well-formed round: non-empty, every value parses base-16, every power ≥ 1 (minimum stake),
total power below 2^63 (reporters are distinct by the store key; the model does not need it). -/
structure WF (rs : List Report) : Prop where
  ne : rs ≠ []
  parse : ∀ r ∈ rs, (parseHex (strip0x r.value)).isSome = true
  pos : ∀ r ∈ rs, 1 ≤ r.power
  total : psum rs < 2^63

def aggVal (a : Aggregate) : Int := (parseHex a.value).getD 0

theorem WF.psum_pos {rs : List Report} (wf : WF rs) : 0 < psum rs := by
  obtain ⟨r, hr⟩ := List.exists_mem_of_ne_nil rs wf.ne
  exact List.sum_pos_iff_exists_pos_nat.mpr ⟨_, List.mem_map_of_mem hr, wf.pos r hr⟩

/-- **C06 (weighted median), all parts.** For every well-formed round the median aggregate exists and
* is a reported value (recorded without an optional `0x` prefix), names a reporter who reported it
  (and that report's block height),
* reports with strictly smaller values hold at most half of the total power,
* reports with values up to and including it hold at least half,
* records the sum of all powers,
* lists every report exactly once (a permutation of the input),
* its index points at the named reporter inside that list,
* and it is the *least* reported value whose cumulative power reaches half. -/
theorem C06_median_full (rs : List Report) (wf : WF rs) :
    ∃ agg, weightedMedian rs = some agg ∧
      (∃ r ∈ rs, strip0x r.value = agg.value ∧ r.reporter = agg.reporter ∧ r.block = agg.microHeight) ∧
      2 * powerBelow rs (aggVal agg) ≤ psum rs ∧
      2 * powerUpTo rs (aggVal agg) ≥ psum rs ∧
      agg.power = psum rs ∧
      agg.reporters.Perm (rs.map toAggReporter) ∧
      (agg.reporters[agg.index]?).map (·.reporter) = some agg.reporter ∧
      (∀ r' ∈ rs, 2 * powerUpTo rs (val r') ≥ psum rs → aggVal agg ≤ val r') := by
  obtain ⟨pre, r, post, hs, hmed, hbelow, hupto⟩ := median_spec rs wf.parse wf.psum_pos wf.total
  have hperm := sortByVal_perm rs
  refine ⟨_, hmed, ⟨r, hperm.subset (by rw [hs]; simp), rfl, rfl, rfl⟩, Nat.le_of_lt hbelow, hupto, rfl,
    hperm.map _, by simp [hs, toAggReporter], fun r' _ hr' => le_of_half_split hbelow hr'⟩

/-- **C06 (order independence of the median value).** Two arrival orders of the same multiset of
reports give aggregates with the same numeric value. -/
theorem C06_median_perm_invariant (rs rs' : List Report) (wf : WF rs) (hp : rs.Perm rs') :
    ∃ a a', weightedMedian rs = some a ∧ weightedMedian rs' = some a' ∧ aggVal a = aggVal a' := by
  obtain ⟨_, r, _, -, ha, hb, hu⟩ := median_spec rs wf.parse wf.psum_pos wf.total
  obtain ⟨_, r', _, -, ha', hb', hu'⟩ := median_spec rs' (fun x hx => wf.parse x (hp.symm.subset hx))
    (psum_perm hp ▸ wf.psum_pos) (psum_perm hp ▸ wf.total)
  refine ⟨_, _, ha, ha', ?_⟩
  show val r = val r'
  -- both values split the power of the same multiset: less than half below, at least half up to
  rw [← powerBelow_perm hp, ← psum_perm hp] at hb'
  rw [← powerUpTo_perm hp, ← psum_perm hp] at hu'
  exact Int.le_antisymm (le_of_half_split hb hu') (le_of_half_split hb' hu)

/-- non-vacuity: a concrete well-formed round with an exact half-power boundary -/
example : WF [⟨"a", "0a", 2, 5⟩, ⟨"b", "3", 1, 5⟩, ⟨"c", "ff", 1, 6⟩] :=
  ⟨by simp, by decide, by decide, by decide⟩

/-- **C06 (weighted mode: maximal power).** Whatever order the keys are scanned in, as long as the
scan visits every reported value, no reported value has more total power than the chosen one. -/
theorem C06_mode_max_weight (rs : List Report) (ord : List String)
    (hcover : ∀ r ∈ rs, r.value ∈ ord) :
    ∀ r ∈ rs, weight rs r.value ≤ weight rs (modeWith rs ord) ∨ modeWith rs ord = "" :=
  fun r hr => Or.inl (modeScan_max (weight rs) ord (0, "") (Nat.zero_le _) r.value (hcover r hr))

/-- the source scans the reports' own values, which covers every reported value -/
theorem C06_mode_max_weight_src (rs : List Report) :
    ∀ r ∈ rs, weight rs r.value ≤ weight rs (modeWith rs (rs.map (·.value))) ∨
      modeWith rs (rs.map (·.value)) = "" :=
  C06_mode_max_weight rs _ (fun r hr => List.mem_map.mpr ⟨r, hr, rfl⟩)

/-- **C06 (mode bookkeeping).** The mode aggregate records the sum of all powers (mod 2^64, exact
below 2^64) and lists every report exactly once, in arrival order. -/
theorem C06_mode_bookkeeping (rs : List Report) (ord : List String) (hne : rs ≠ []) :
    ∃ agg, weightedModeWith rs ord = some agg ∧ agg.power = psum rs % 2^64 ∧
      agg.reporters = rs.map toAggReporter := by
  refine ⟨_, if_neg (by simpa using hne), ?_⟩
  -- both arms of `mkMode` fill these two fields alike
  unfold mkMode; split <;> exact ⟨rfl, rfl⟩

end Layer.Agg
