import LayerModel.Lemmas.Median
import LayerModel.Gen.LockSites

/-!
# C20 — the price daemon serves the true median of fresh exchange prices

Models: `Layer.Median.medianU64/medianI64` (lib/math.go), `Layer.PriceCache.*` (the cache).
The concurrency part (every interleaving of lock-protected calls equals a sequential execution) is not a theorem:
it is searched on generated concurrent histories (`Driver/Pconc.lean`, family pconc); here only the lock discipline is tied to
the source (`C20_lock_sites`).
-/
namespace Layer.Median

/-- **C20 (median, uint64).** For every non-empty list of 64-bit prices the result is the middle
element of the sorted list (odd length) or `⌈(x+y)/2⌉` of the two middle elements (even length) —
the mean rounded away from zero — computed without overflow (the model wraps every machine
operation at 2^64; the equality shows no wrap changes the result). -/
theorem C20_median_spec_u64 (xs : List Nat) (hne : xs ≠ []) (hb : ∀ x ∈ xs, x < 18446744073709551616) :
    medianU64 xs = some (
      let s := sortNat xs
      if xs.length % 2 = 1 then s.getD (xs.length / 2) 0
      else (s.getD (xs.length / 2 - 1) 0 + s.getD (xs.length / 2) 0 + 1) / 2) := by
  have hl : xs.length ≠ 0 := by simpa using hne
  unfold medianU64
  simp only [hl, if_false]
  split
  · rfl
  · -- both middle positions exist, so `getD` reads the sorted list there
    have hpos : 0 < xs.length / 2 := by omega
    have hj : xs.length / 2 < (sortNat xs).length := by
      rw [(sortNat_perm xs).length_eq]; exact Nat.div_lt_self (Nat.pos_of_ne_zero hl) (by decide)
    have hi := Nat.lt_trans (Nat.sub_lt hpos Nat.one_pos) hj
    simp only [List.getD_eq_getElem?_getD, List.getElem?_eq_getElem hi, List.getElem?_eq_getElem hj,
      Option.getD_some]
    rw [midU64_spec _ _
      (List.pairwise_iff_getElem.mp (sortNat_sorted xs) _ _ hi hj (Nat.sub_lt hpos Nat.one_pos))
      (hb _ ((sortNat_perm xs).subset (List.getElem_mem hj)))]

/-- **C20 (median, int64 branch arithmetic).** For two 64-bit signed values `x ≤ y` the even branch
returns their mean rounded away from zero, all intermediates inside the type. -/
theorem C20_median_spec_i64 (x y : Int) (hxy : x ≤ y) (hx : -9223372036854775808 ≤ x)
    (hy : y < 9223372036854775808) : midI64 x y = meanAwayFromZero x y := by
  -- the mean lies between `x` and `y`, so the last wrap of every branch is the identity
  have hm := mean_between hxy
  have hwm : wi (meanAwayFromZero x y) = meanAwayFromZero x y :=
    wi_of_range ⟨Int.le_trans hx hm.1, Int.lt_of_le_of_lt hm.2 hy⟩
  unfold midI64
  split
  · -- `x ≤ 0 ≤ y`: the sum itself fits
    simp only [wi_of_range (n := x + y) (by omega), tdiv_add_tmod_two, hwm]
  · -- same sign: the difference fits, and is not negative
    rw [wi_of_range (n := y - x) (by omega), Int.tdiv_eq_ediv_of_nonneg (by omega)]
    split
    · rw [← mean_of_nonneg (by omega), hwm]
    · rw [← mean_of_neg (by omega), hwm]

/-- **C20 (order independence).** The median does not depend on the order in which the prices are
collected (Go collects them by ranging over a map). -/
theorem C20_median_perm (xs ys : List Nat) (h : xs.Perm ys) : medianU64 xs = medianU64 ys := by
  unfold medianU64
  rw [sortNat_eq_of_perm h, h.length_eq]

/-- non-vacuity: the overflow-prone pair (2^64−1, 2^64−2) -/
example : medianU64 [18446744073709551615, 18446744073709551614] = some 18446744073709551615 := by
  rw [C20_median_spec_u64 _ (by simp) (by intro x hx; simp at hx; rcases hx with rfl | rfl <;> omega)]
  have : sortNat [18446744073709551615, 18446744073709551614] = [18446744073709551614, 18446744073709551615] := by
    simp [sortNat, List.mergeSort]
  simp [this]

end Layer.Median

namespace Layer.PriceCache
open Layer.Median

/-- **C20 (freshness and minimum number of exchanges).** For one market parameter `(id, min)` the
daemon serves a price iff the market is known, at least `min` of its exchanges are fresh
(`lastUpdate ≥ readTime − maxAge`) and at least one is, and the served price is the median of
exactly the fresh exchanges' latest prices. -/
theorem C20_served_spec (c : Cache) (maxAge : Int) (id min : Nat) (readTime : Int) :
    getValidMedianPrices c maxAge [(id, min)] readTime =
      match lookup id c with
      | none => []
      | some ex =>
        let fresh := (ex.filter (fun e => decide (e.2.last ≥ readTime - maxAge))).map (·.2.price)
        if fresh.length ≥ min then
          match medianU64 fresh with
          | some m => [(id, m)]
          | none => []
        else [] := by
  -- the model's `!(last < cutoff)` is the statement's `last ≥ cutoff`
  have hf : ∀ e : String × PT,
      decide (e.2.last ≥ readTime - maxAge) = !decide (e.2.last < readTime - maxAge) := by
    intro e; simp [← Int.not_lt]
  simp only [hf]
  -- what is left is one step of the fold over the parameters, and `upsert` into the empty result: by computation
  rfl

/-- no price is served from an empty fresh set even when `min = 0` -/
theorem C20_no_price_from_nothing (xs : List Nat) : medianU64 xs = none ↔ xs = [] := by
  unfold medianU64
  constructor
  · intro h; by_cases hl : xs.length = 0
    · exact List.length_eq_zero_iff.mp hl
    · simp only [hl, if_false] at h; split at h <;> simp at h
  · rintro rfl; rfl

/-- **C20 (an exchange's stored price only moves forward in update time).** -/
theorem C20_update_monotone (pt : PT) (price : Nat) (t : Int) :
    (pt.update price t).last ≥ pt.last ∧
    (pt.update price t ≠ pt → (pt.update price t).last > pt.last ∧ (pt.update price t) = ⟨t, price⟩) := by
  unfold PT.update
  split
  · exact ⟨by simp; omega, fun _ => ⟨by simpa using ‹t > pt.last›, rfl⟩⟩
  · exact ⟨by simp, fun h => absurd rfl h⟩

end Layer.PriceCache

namespace Layer.C20

/-- lock discipline of the price cache at the verified commit: the two exported methods of
`MarketToExchangePrices` take the mutex (`Lock(); defer Unlock()`) before touching the map, and they are
the only functions that touch `marketToExchangePrices`; `ExchangeToPrice` / `PriceTimestamp` methods touch
their fields without a lock of their own and are reachable only through those two methods. -/
def expectedLockSites : List (List String) := [

  ["daemons/pricefeed/types/price_timestamp.go", "PriceTimestamp.GetValidPrice", "no", "LastUpdateTime Price"],
  ["daemons/pricefeed/types/price_timestamp.go", "PriceTimestamp.UpdatePrice", "no", "LastUpdateTime Price"],
  ["daemons/server/types/pricefeed/exchange_to_price.go", "ExchangeToPrice.GetValidPrices", "no", "call:GetValidPrice call:GetValidPrices exchangeToPriceTimestamp"],
  ["daemons/server/types/pricefeed/exchange_to_price.go", "ExchangeToPrice.UpdatePrices", "no", "LastUpdateTime Price call:UpdatePrice exchangeToPriceTimestamp"],
  ["daemons/server/types/pricefeed/market_to_exchange_prices.go", "MarketToExchangePrices.GetValidMedianPrices", "yes", "call:GetValidPrices call:Lock call:Unlock marketToExchangePrices"],
  ["daemons/server/types/pricefeed/market_to_exchange_prices.go", "MarketToExchangePrices.UpdatePrices", "yes", "call:Lock call:Unlock call:UpdatePrices marketToExchangePrices"]
]

/-- **C20 (lock sites).** Regenerated from the source on every run: a method that reads or writes the
guarded map outside the lock, a new accessor, or a changed call structure fails here. -/
theorem C20_lock_sites : Layer.Gen.lockSites = expectedLockSites := rfl

end Layer.C20
