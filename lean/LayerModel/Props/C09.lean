import LayerModel.Lemmas.RewardsBound
import LayerModel.Gen.Formulas

/-!
# C09 — each reward is split exactly, non-negatively and in proportion to backing stake

Models: `Layer.Rewards.allocate` (`AllocateRewards`), `Layer.Rewards.divvy` (`DivvyingTips`),
over the exact `LegacyDec` model (`Layer.Dec`).  All amounts are raw 10^-18 integers.
-/
namespace Layer.Rewards
open Layer Layer.Agg

/-- **C09 (the share formula is the code's).** `amount := power.Quo(tPower).Mul(reward.ToLegacyDec())`
as regenerated from x/oracle/keeper/rewards.go on every run is the model's `calculateRewardAmount`. -/
theorem C09_formula (rp cnt tp : Nat) (reward : Int) :
    calculateRewardAmount rp cnt tp reward = Layer.Gen.rewardAmount (i64 rp) (i64 cnt) (i64 tp) reward := rfl

/-- **C09 (allocation is exact).** Whenever a non-zero reward is paid for aggregates that list at
least one reporter, the amounts handed to `AllocateTip` sum to the reward exactly — for every
number of reporters, powers, counts and reward size (the last reporter in address order absorbs
the rounding remainder). -/
theorem C09_allocated_sum_exact (aggs : List (String × List AggReporter)) (reward : Int)
    (hr : reward ≠ 0) (hne : ∃ a ∈ aggs, a.2 ≠ []) :
    amountSum (allocate aggs reward) = Dec.ofInt reward := by
  unfold allocate
  simp only [hr, if_false]
  have hm : (collect aggs).1 ≠ [] := collect_ne_nil aggs hne
  have hs : sortByAddr (collect aggs).1 ≠ [] := fun h => hm (List.Perm.eq_nil (h ▸ (List.mergeSort_perm _ _).symm))
  have := payLoop_sum (collect aggs).2 reward _ 0 hs
  simpa using this

/-- **C09 (commission exactly once).** The credits of one `DivvyingTips` call are the pro-rata
shares of the net reward plus the commission, once — whether the reporter has one, several or no
token origins of its own. -/
theorem C09_commission_once (reporter : String) (rate reward : Int) (os : List Origin) (total : Int) :
    creditSum (divvy reporter rate reward os total) =
      Dec.mul reward rate + shareSum (reward - Dec.mul reward rate) total os := by
  have hsum := divvyLoop_sum reporter (Dec.mul reward rate) (reward - Dec.mul reward rate) total os false
  simp only [divvy]
  generalize divvyLoop reporter (Dec.mul reward rate) (reward - Dec.mul reward rate) total false os = r at hsum ⊢
  obtain ⟨cs, paid⟩ := r
  cases paid with
  | true => simp [creditSum] at hsum ⊢; omega
  | false =>
    -- the loop still owes the commission: the reporter's own entry is appended, unless the commission is zero
    by_cases hc : Dec.mul reward rate = 0 <;> simp [hc, creditSum] at hsum ⊢ <;> omega

/-- **C09 (the credits sum to the reward, to within 10^-18 per credit).** When the recorded total is the
sum of the recorded origins (as the report snapshot guarantees), the commission rate is in [0, 1] and the
reward non-negative, the credits of one `DivvyingTips` call differ from the reward by at most one raw unit
(10^-18 loya) per token origin — for every reward, rate, number of origins and amounts. -/
theorem C09_divvy_sum (reporter : String) (rate reward : Int) (os : List Origin) (total : Int)
    (hr0 : 0 ≤ rate) (hr1 : rate ≤ Dec.prec) (hrew : 0 ≤ reward) (ht : 0 < total)
    (ha : ∀ o ∈ os, 0 ≤ o.amount) (hsum : amtSum os = total) :
    creditSum (divvy reporter rate reward os total) - reward ≤ os.length ∧
    reward - creditSum (divvy reporter rate reward os total) ≤ os.length := by
  obtain ⟨hc0, hc1⟩ := commission_bounds hr0 hr1 hrew
  have hn : 0 ≤ reward - Dec.mul reward rate := by omega
  rw [C09_commission_once]
  obtain ⟨h1, h2⟩ := shareSum_bound (reward - Dec.mul reward rate) total hn ht os ha
  rw [hsum] at h1 h2
  have hnT : 0 ≤ (os.length : Int) * total := Int.mul_nonneg (Int.natCast_nonneg _) (Int.le_of_lt ht)
  -- both bounds hold after multiplication by `total`
  constructor <;> refine Int.le_of_mul_le_mul_right ?_ ht <;> linarith

/-- **C09 (no negative credit).** For a commission rate in [0, 1], a non-negative reward, non-negative
recorded amounts and a positive recorded total, every credit is non-negative. -/
theorem C09_divvy_nonneg (reporter : String) (rate reward : Int) (os : List Origin) (total : Int)
    (hr0 : 0 ≤ rate) (hr1 : rate ≤ Dec.prec) (hrew : 0 ≤ reward) (ht : 0 < total)
    (ha : ∀ o ∈ os, 0 ≤ o.amount) :
    ∀ c ∈ divvy reporter rate reward os total, 0 ≤ c.2 := by
  obtain ⟨hc0, hc1⟩ := commission_bounds hr0 hr1 hrew
  have hn : 0 ≤ reward - Dec.mul reward rate := by omega
  intro c hc
  unfold divvy at hc
  simp only [] at hc
  have hloop := divvyLoop_nonneg reporter hc0 hn ht os false ha
  split at hc
  · rcases List.mem_append.mp hc with h | h
    · exact hloop c h
    · simp at h; subst h; exact hc0
  · exact hloop c hc

/-- non-vacuity of the hypotheses: rate ½, reward 1000, two origins of the reporter, one of a selector -/
example : divvy "r" 500000000000000000 (1000 * Dec.prec) [⟨"r", "v1", 10⟩, ⟨"r", "v2", 10⟩, ⟨"s", "v1", 20⟩] 40 =
    [("r", 625 * Dec.prec), ("r", 125 * Dec.prec), ("s", 250 * Dec.prec)] := by decide

/-- **C09 (counterexample, recorded finding `commission-range`).** `CreateReporter` accepts rates up to
100 (and negative ones) while `DivvyingTips` uses the rate as a fraction: with rate 2 the selectors'
credits are negative. -/
theorem C09_commission_range_counterexample :
    ∃ c ∈ divvy "r" (2 * Dec.prec) (1000 * Dec.prec) [⟨"r", "v", 10⟩, ⟨"s", "v", 10⟩] 20, c.2 < 0 :=
  ⟨("s", -500 * Dec.prec), by decide, by decide⟩

/-- **C09 (counterexample for the loop before the `fix:` commit).** Two own origins doubled the commission:
1500 credited for a reward of 1000. -/
theorem C09_double_commission_counterexample :
    creditSum (divvyOld "r" 500000000000000000 (1000 * Dec.prec) [⟨"r", "v1", 10⟩, ⟨"r", "v2", 10⟩] 20) = 1500 * Dec.prec := by
  decide

end Layer.Rewards
