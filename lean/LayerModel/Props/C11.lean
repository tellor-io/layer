import Mathlib.Tactic.Ring
import Mathlib.Tactic.Linarith
import LayerModel.Chain.Slash
import LayerModel.Lemmas.Unbond
import LayerModel.Lemmas.Dec

/-!
# C11 — slashing takes exactly the category's share of the disputed report's stake

Model: `Layer.Slash` (amount, apportioning over the report's stake snapshot, jail durations).
-/
namespace Layer.Slash
open Layer Layer.Dec

/-- **C11 (amount).** The slash amount is exactly 1 %, 5 % or 100 % of the report's power in loya: `power · 10^6 · pct / 10^6`
with no rounding loss. -/
theorem C11_slash_amount (power : Int) (c : Cat) (h : 0 ≤ power) : slashAmount power c = power * pct6 c := by
  unfold slashAmount
  rw [mul_ofInt, show Dec.ofInt (power * 1000000) * pct6 c = (power * pct6 c) * Dec.ofInt 1000000 by unfold Dec.ofInt; ring,
    quo_mul_cancel _ (by decide), truncateInt_ofInt]

theorem apportionGo_sum (total amt : Int) : ∀ (os : List Int) (left : Int), os ≠ [] → (apportionGo total amt os left).sum = left
  | [], _, h => absurd rfl h
  | [_], left, _ => by simp [apportionGo]
  | d :: d2 :: ds, left, _ => by
    have ih := apportionGo_sum total amt (d2 :: ds) (left - share d total amt) (by simp)
    simp only [apportionGo, List.sum_cons] at ih ⊢
    omega

/-- **C11 (the whole amount is taken, exactly).** Whatever the snapshot and the denominator, the shares sum to the slash amount. -/
theorem C11_apportion_sum (os : List Int) (total amt : Int) (h : os ≠ []) : (apportion os total amt).sum = amt :=
  apportionGo_sum total amt os amt h

theorem apportionGo_length (total amt : Int) : ∀ (os : List Int) (left : Int), (apportionGo total amt os left).length = os.length
  | [], _ => rfl
  | [_], _ => rfl
  | d :: d2 :: ds, left => by
    have ih := apportionGo_length total amt (d2 :: ds) (left - share d total amt)
    simp only [apportionGo, List.length_cons] at ih ⊢
    omega

/-- **C11 (one record per backer entry).** -/
theorem C11_apportion_length (os : List Int) (total amt : Int) : (apportion os total amt).length = os.length :=
  apportionGo_length total amt os amt

/-- **C11 (proportional to within one smallest unit).** With the snapshot's total as denominator, an origin's share differs from
the exact proportion `del · amt / total` by at most one loya (for amounts up to 5·10^17 loya). -/
theorem C11_share_proportional (del total amt : Int) (hd : 0 ≤ del) (ht : 0 < total) (ha : 0 ≤ amt) (hamt : 2 * amt ≤ prec) :
    share del total amt * total - del * amt ≤ total ∧ del * amt - share del total amt * total ≤ total := by
  unfold share Dec.roundInt
  rw [mul_ofInt]
  -- the ratio is off by at most `1/total`, the product with `amt ≤ P/2` by at most half of that, the rounding by a half
  obtain ⟨q1, q2⟩ := quo_ofInt_near (ofInt_nonneg hd) ht
  generalize Dec.quo (Dec.ofInt del) (Dec.ofInt total) = q at *
  obtain ⟨r1, r2⟩ := chopRound_err (q * amt)
  generalize chopRound (q * amt) = s at *
  have r1T := mul_le_mul_of_nonneg_right r1 (le_of_lt ht)
  have r2T := mul_le_mul_of_nonneg_right r2 (le_of_lt ht)
  have q1a := mul_le_mul_of_nonneg_right (le_of_lt q1) ha
  have q2a := mul_le_mul_of_nonneg_right (le_of_lt q2) ha
  have haT := mul_le_mul_of_nonneg_right hamt (le_of_lt ht)
  unfold Dec.ofInt prec at *
  constructor <;> linarith

/-- **C11 (counterexample before the fix).** With `power · 10^6` as denominator instead of the snapshot's total, a report backed by
3 333 333 + 2 499 999 loya (power 5) and a warning dispute (50 000 loya) takes 33 333 from the first backer and 16 667 from the
second, where the proportional shares are 28 571 and 21 429; with backers 1 500 000 + 499 999 (power 1) the last share is
negative (−5 000) and the escrow fails: the report cannot be disputed at all. -/
theorem C11_denominator_counterexample :
    apportion [3333333, 2499999] 5000000 50000 = [33333, 16667] ∧
    apportion [3333333, 2499999] 5833332 50000 = [28571, 21429] ∧
    apportion [1500000, 499999] 1000000 10000 = [15000, -5000] := by decide

/-- **C11 (jail).** Warning: jailed with release possible at once; minor: ten minutes; major: no jail by the dispute module. -/
theorem C11_jail_durations : jailSeconds .warning = some 0 ∧ jailSeconds .minor = some 600 ∧ jailSeconds .major = none := ⟨rfl, rfl, rfl⟩

/-- the hypotheses of `C11_share_proportional` are met by a concrete dispute -/
example : share 3333333 5833332 50000 = 28571 ∧ (2 : Int) * 50000 ≤ prec := by decide

end Layer.Slash


/-! ## Taking a whole amount out of a delegation at any exchange rate (`sharesForTokens`, model `Layer.Unbond`) -/
namespace Layer.Unbond
open Layer

/-- **C11 / C05 (the amount escrowed is the amount recorded, at every exchange rate).**  For every validator (any tokens, any delegator
shares worth at most half a token per raw share unit — i.e. every validator that exists), every amount and every delegation that holds
more shares than the rounded-down need, the staking module hands out exactly the requested amount for the shares `sharesForTokens`
chooses: the backer loses, and the dispute account receives, what the escrow record says. -/
theorem C11_unbond_exact (v : Val) (available amt : Int) (hT : 0 < v.tokens) (hS : 2 * v.tokens ≤ v.shares) (ha : 0 ≤ amt)
    (hav : sharesFromTokens v amt < available) :
    unbondTokens v (sharesForTokens v available amt) = amt := by
  have hS0 : 0 < v.shares := by omega
  obtain ⟨hs0, hlo, hhi⟩ := sharesFromTokens_spec v amt hT (Int.mul_nonneg (by omega) ha)
  unfold sharesForTokens
  simp only []
  generalize sharesFromTokens v amt = s at *
  -- the converted shares are worth at most `amt` …
  have hle := unbond_le v s amt (amt * Dec.prec) hs0 (by omega) hS0 (by unfold Dec.prec; omega) (by unfold Dec.prec; linarith)
  split
  · -- … and one smallest share unit more is worth at least `amt`, and less than half a unit of precision above it
    rw [show min (s + 1) available = s + 1 by omega]
    have h2 : (s + 1) * v.tokens ≤ v.shares * amt + v.tokens := by rw [Int.add_mul]; omega
    have ge := le_unbond v (s + 1) amt (by omega) (by omega) hS0 (by linarith)
    have le := unbond_le v (s + 1) amt (amt * Dec.prec + Dec.half) (by omega) (by omega) hS0
      (by unfold Dec.prec Dec.half; omega) (by unfold Dec.half Dec.prec; linarith)
    omega
  · omega

/-- **C11 (counterexample before the fix).**  A validator slashed 1 % for downtime (934 070 000 tokens for 943 505 050.50… shares): the
shares converted for 5 000 045 loya are worth a fraction less, and `Unbond` hands out 5 000 044 — the escrow record, the dispute's
slash amount and the refunds computed from it are one loya ahead of the dispute account. -/
theorem C11_unbond_short_counterexample :
    let v : Val := ⟨934070000, 943505050505050505050505051⟩
    unbondTokens v (sharesForTokensOld v 5000045) = 5000044 ∧
    unbondTokens v (sharesForTokens v (943505050505050505050505051) 5000045) = 5000045 := by decide

end Layer.Unbond
