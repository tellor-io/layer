import LayerModel.Lemmas.Abi
import LayerModel.Gen.GoAbi
import LayerModel.Gen.SolAbi
import LayerModel.Gen.Formulas

/-!
# C15 — bridge byte encodings agree with what the EVM contracts compute and verify

`Layer.Abi.enc` is the Solidity ABI head/tail encoding (the specification).  The keeper's byte
strings (`goValsetBytes`, `goCheckpointPre`, `goAttestPre`, `goQueryData`, `goWithdrawValue`) are
modelled as the code builds them; the contract's as `abi.encode` of the argument lists the Solidity
scanner regenerates.  Equal pre-images give equal digests for ANY hash function, so keccak-256
never has to be reasoned about.
-/
namespace Layer.Abi
open Layer Layer.Bytes

/-- **C15 (validator-set encoding).** The hand-rolled `offset ‖ length ‖ items` layout of
`EncodeAndHashValidatorSet` is `abi.encode(Validator[])`, for every list of validators (any length,
any address bytes, any powers). -/
theorem C15_valset_encoding (vs : List (Bytes × Nat)) : goValsetBytes vs = enc [.vals vs] := by
  simp only [goValsetBytes, enc_two_words]
  simp only [enc, heads, tailOf, List.flatMap_cons, List.flatMap_nil, List.append_nil, List.append_assoc]
  rfl

/-- consequently the validator-set hash is the contract's, for any hash function `H` -/
theorem C15_valset_hash (H : Bytes → Bytes) (vs : List (Bytes × Nat)) :
    H (goValsetBytes vs) = H (enc [.vals vs]) := by rw [C15_valset_encoding]

/-- contract side of the checkpoint: `abi.encode(VALIDATOR_SET_HASH_DOMAIN_SEPARATOR, threshold, ts, hash)` -/
def solCheckpointPre (sep : Bytes) (threshold ts : Nat) (valsetHash : Bytes) : Bytes :=
  enc [.word sep, .word (u256 threshold), .word (u256 ts), .word valsetHash]

/-- 0x636865636b706f696e7400000000000000000000000000000000000000000000 -/
def solCheckpointSep : Bytes :=
  [0x63, 0x68, 0x65, 0x63, 0x6b, 0x70, 0x6f, 0x69, 0x6e, 0x74, 0, 0, 0, 0, 0, 0, 0, 0, 0, 0, 0, 0, 0, 0, 0, 0, 0, 0, 0, 0, 0, 0]

/-- **C15 (domain separators, byte for byte).** `copy(dst[:32], "checkpoint")` is the contract's
`VALIDATOR_SET_HASH_DOMAIN_SEPARATOR`; the attestation separator's 32 bytes are the contract's
`NEW_REPORT_ATTESTATION_DOMAIN_SEPARATOR` (both constants are also regenerated below). -/
theorem C15_domain_separators :
    copy32 checkpointTag = solCheckpointSep ∧ copy32 attestDomainSep = attestDomainSep ∧
    attestDomainSep.length = 32 := ⟨rfl, rfl, rfl⟩

/-- **C15 (checkpoint pre-image).** For a 32-byte validator-set hash the keeper's checkpoint pre-image
is the contract's `_domainSeparateValidatorSetHash` pre-image. -/
theorem C15_checkpoint_preimage (threshold ts : Nat) (h : Bytes) (hl : h.length = 32) :
    goCheckpointPre threshold ts h = solCheckpointPre solCheckpointSep threshold ts h := by
  rw [goCheckpointPre, C15_domain_separators.1, copy32_of_length hl]
  rfl

/-- contract side of the attestation digest (`verifyOracleData`) -/
def solAttestPre (queryId value : Bytes) (ts power prev next : Nat) (checkpoint : Bytes) (attestTs : Nat) : Bytes :=
  enc [.word attestDomainSep, .word queryId, .dyn value, .word (u256 ts), .word (u256 power),
       .word (u256 prev), .word (u256 next), .word checkpoint, .word (u256 attestTs)]

/-- **C15 (attestation pre-image).** For 32-byte query id and checkpoint and ANY report value bytes
(empty, non-multiple-of-32, long) the bytes validators sign are the contract's. -/
theorem C15_attest_preimage (q value : Bytes) (ts power prev next : Nat) (cp : Bytes) (ats : Nat)
    (hq : q.length = 32) (hc : cp.length = 32) :
    goAttestPre q value ts power prev next cp ats = solAttestPre q value ts power prev next cp ats := by
  rw [goAttestPre, C15_domain_separators.2.1, copy32_of_length hq, copy32_of_length hc]
  rfl

/-- **C15 (query ids).** Deposit / withdrawal query data is `abi.encode("TRBBridge", abi.encode(bool, id))`
— the Go side packs the bool with the library (word 0/1), the contract side is the same word. -/
theorem C15_query_ids (toLayer : Bool) (id : Nat) :
    goQueryData toLayer id =
      enc [.dyn trbBridgeTag, .dyn (enc [.word (u256 (if toLayer then 1 else 0)), .word (u256 id)])] := by
  simp [goQueryData, boolWord]

/-- **C15 (power threshold).** The threshold (regenerated from the source) is exactly two thirds of the total power rounded
down, `⌊2·total/3⌋`, for every total — neither more (a two-thirds majority must reach it) nor a whole unit less. -/
theorem C15_threshold (total : Int) (ht : 0 ≤ total) :
    3 * Layer.Gen.powerThreshold total ≤ 2 * total ∧ 2 * total < 3 * Layer.Gen.powerThreshold total + 3 := by
  unfold Layer.Gen.powerThreshold
  rw [Int.tdiv_eq_ediv_of_nonneg (by omega)]
  omega

/-- consequently any signer set holding more than two thirds of the power reaches the threshold -/
theorem C15_threshold_reached (total p : Int) (ht : 0 ≤ total) (hp : 3 * p > 2 * total) :
    p ≥ Layer.Gen.powerThreshold total := by
  have := (C15_threshold total ht).1
  omega

/-- `abi.encodePacked(bytes32 d)`: a single static word is packed as itself -/
def encodePackedBytes32 (d : Bytes) : Bytes := d

/-- **C15 (signature digest convention).** `abi.encodePacked(bytes32 d)` is `d` itself, so the contract
recovers against `sha256(d)` — the digest the SDK keyring signs for message `d`. (`sha256` and
`ecrecover` are parameters; the sigconv family exercises the real ones.) -/
theorem C15_sig_convention (sha : Bytes → Bytes) (d : Bytes) : sha (encodePackedBytes32 d) = sha d := rfl

/-! ### layouts regenerated from both sources -/

/-- **C15 (layouts).** For each encoding, the ABI type list of the keeper's `abi.Arguments` literal equals
the resolved type list of the contract's `abi.encode` / `abi.decode`, and the literals agree. Both tables
are regenerated from /repo on every run (Go AST extractor, Solidity scanner). -/
theorem C15_layouts :
    -- checkpoint
    lookup Gen.goAbi ["Keeper.CalculateValidatorSetCheckpoint", "00", "types"] =
      lookup Gen.solAbi ["BlobstreamO.sol", "_domainSeparateValidatorSetHash", "00", "encode"] ∧
    -- attestation digest
    lookup Gen.goAbi ["Keeper.EncodeOracleAttestationData", "00", "types"] =
      lookup Gen.solAbi ["BlobstreamO.sol", "verifyOracleData", "01", "encode"] ∧
    -- validator tuple = struct Validator
    lookup Gen.goAbi ["Keeper.EncodeAndHashValidatorSet", "01", "types"] = some "address,uint256" ∧
    lookup Gen.solAbi ["struct", "Validator", "00", "fields"] = some "address addr,uint256 power" ∧
    lookup Gen.solAbi ["BlobstreamO.sol", "updateValidatorSet", "00", "encode"] = some "Validator[]" ∧
    -- query ids (inner and outer)
    lookup Gen.goAbi ["Keeper.GetWithdrawalQueryId", "00", "types"] =
      lookup Gen.solAbi ["TokenBridge.sol", "withdrawFromLayer", "01", "encode"] ∧
    lookup Gen.goAbi ["Keeper.GetWithdrawalQueryId", "02", "types"] =
      lookup Gen.solAbi ["TokenBridge.sol", "withdrawFromLayer", "00", "encode"] ∧
    lookup Gen.goAbi ["Keeper.GetDepositQueryId", "00", "types"] = lookup Gen.goAbi ["Keeper.GetWithdrawalQueryId", "00", "types"] ∧
    lookup Gen.goAbi ["Keeper.GetDepositQueryId", "02", "types"] = lookup Gen.goAbi ["Keeper.GetWithdrawalQueryId", "02", "types"] ∧
    lookup Gen.goAbi ["Keeper.GetWithdrawalQueryId", "zz", "literals"] = some "TRBBridge,false" ∧
    lookup Gen.goAbi ["Keeper.GetDepositQueryId", "zz", "literals"] = some "TRBBridge,true" ∧
    lookup Gen.solAbi ["TokenBridge.sol", "withdrawFromLayer", "00", "literals"] = some "\"TRBBridge\"" ∧
    lookup Gen.solAbi ["TokenBridge.sol", "withdrawFromLayer", "01", "literals"] = some "false" ∧
    -- withdrawal report value = what the contract decodes; deposit report value = the same shape
    lookup Gen.goAbi ["Keeper.GetWithdrawalReportValue", "00", "types"] =
      lookup Gen.solAbi ["TokenBridge.sol", "withdrawFromLayer", "02", "decode"] ∧
    lookup Gen.goAbi ["Keeper.DecodeDepositReportValue", "00", "types"] = some "address,string,uint256,uint256" ∧
    lookup Gen.solAbi ["struct", "ReportData", "00", "fields"] =
      some "bytes value,uint256 timestamp,uint256 aggregatePower,uint256 previousTimestamp,uint256 nextTimestamp" ∧
    -- constants
    lookup Gen.solAbi ["Constants.sol", "VALIDATOR_SET_HASH_DOMAIN_SEPARATOR", "00", "constant"] =
      some "0x636865636b706f696e7400000000000000000000000000000000000000000000" ∧
    lookup Gen.goAbi ["Keeper.CalculateValidatorSetCheckpoint", "zz", "literals"] = some "checkpoint" ∧
    lookup Gen.solAbi ["Constants.sol", "NEW_REPORT_ATTESTATION_DOMAIN_SEPARATOR", "00", "constant"] =
      some "0x74656c6c6f7243757272656e744174746573746174696f6e0000000000000000" ∧
    lookup Gen.goAbi ["Keeper.EncodeOracleAttestationData", "zz", "literals"] =
      some "74656c6c6f7243757272656e744174746573746174696f6e0000000000000000" :=
  ⟨rfl, rfl, rfl, rfl, rfl, rfl, rfl, rfl, rfl, rfl, rfl, rfl, rfl, rfl, rfl, rfl, rfl, rfl, rfl, rfl⟩

end Layer.Abi
