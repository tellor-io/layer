import LayerModel.Lemmas.Oracle

/-!
# C07 — reports enter only an open round; each round aggregates exactly once

Model: `Layer.Oracle` (Chain/Oracle.lean) — `tip`, `submit`, `setAggregated`, `rotate`.  Heights are the block's
height; `RepIn` carries what the oracle learns from the reporter and registry modules.
-/
namespace Layer.Oracle
open Layer

/-- **C07 (bridge-withdrawal queries are never reportable).** For every state, height, reporter and value. -/
theorem C07_withdrawal_never_reportable (s : S) (h : Nat) (qid : String) (spec : Spec) (ri : RepIn) :
    submit s h qid .withdraw spec ri = none := by
  simp [submit]

/-- **C07 (admission, necessary conditions).** A report is accepted only if the reporter module returned a stake
(not jailed, known) of at least the minimum, the value decodes, the query is a registered non-withdrawal type, and —
unless it is a token-bridge deposit — its current round carries a tip or is the scheduled cycle-list query and its
window has not closed (`expiration ≥ height`). -/
theorem C07_admission (s : S) (h : Nat) (qid : String) (kind : Kind) (spec : Spec) (ri : RepIn) (s' : S)
    (hacc : submit s h qid kind spec ri = some s') :
    (kind = .spot ∨ kind = .deposit) ∧
    (∃ stake, ri.stake = some stake ∧ ri.minStake ≤ stake) ∧
    ri.valueOk = true ∧
    (kind = .spot → ∃ q, currentQuery s.queries qid = some q ∧ (q.amount ≠ 0 ∨ q.cycle = true) ∧ h ≤ q.exp) := by
  obtain ⟨stake, hst, hmin, hw, hg, ⟨_, _, _, hset⟩, hopen⟩ := submit_some hacc
  obtain ⟨hn, -, hv, -⟩ := setValue_eq_some.mp hset
  refine ⟨?_, ⟨stake, hst, hmin⟩, hv, fun e => hopen (e ▸ nofun)⟩
  -- of the five kinds three are excluded
  cases kind <;> first | exact .inl rfl | exact .inr rfl | contradiction

/-- **C07 (a later report of the same reporter in the same round replaces the earlier one).** After an accepted
`setValue` there is exactly one stored report for (query, reporter, round) and it carries the new value. -/
theorem C07_replace (s : S) (h : Nat) (q : Query) (kind : Kind) (spec : Spec) (ri : RepIn) (pw : Nat) (c : Bool) (s' : S)
    (hacc : setValue s h q kind spec ri pw c = some s') :
    (s'.reports.filter (fun x => x.qid == q.qid && x.reporter == ri.reporter && x.metaId == q.id)).map (·.value) = [ri.value] := by
  obtain ⟨-, -, -, rfl⟩ := setValue_eq_some.mp hacc
  exact congrArg (List.map (·.value)) (setReport_key_unique s.reports ⟨q.qid, ri.reporter, q.id, ri.value, pw, h, c, spec.method⟩)

/-- **C07 (a round with reports yields exactly one aggregate and disappears).** Aggregating one expired round adds
one aggregate — with the query's next sequence number, the round's meta id, keyed by the block time — and removes
that round's query record; nothing else changes in the query collection. -/
theorem C07_one_aggregate_per_round (s : S) (h ts : Nat) (q : Query) (s' : S) (hagg : aggregateOne s h ts q = some s') :
    s'.queries = removeQuery s.queries q.qid q.id ∧
    ∃ a : Agg, a.qid = q.qid ∧ a.ts = ts ∧ a.metaId = q.id ∧ a.nonce = nonceOf s.nonces q.qid + 1 ∧ a.flagged = false ∧
      s'.aggs = setAgg s.aggs a := by
  obtain ⟨a, rfl⟩ := aggregateOne_some hagg
  exact ⟨rfl, _, rfl, rfl, rfl, rfl, rfl, rfl⟩

/-- **C07 (rotation).** The cycle list stays on its current query while that query's window is open
(`expiration > height`); otherwise it moves to the next entry in list order, wrapping around after the last. -/
theorem C07_rotation (s : S) (h : Nat) (specOf : String → Spec) (s' : S) (hne : s.cycle ≠ [])
    (hr : rotate s h specOf = some s') :
    let cur := s.cycle.getD (if s.seq ≥ s.cycle.length then 0 else s.seq) ""
    ((∃ q, currentQuery s.queries cur = some q ∧ q.exp > h) → s'.seq = s.seq ∧ s'.queries = s.queries) ∧
    ((∀ q, currentQuery s.queries cur = some q → q.exp ≤ h) → s'.seq = (if s.seq + 1 ≥ s.cycle.length then 0 else s.seq + 1)) := by
  have hemp : s.cycle.isEmpty = false := by simpa using hne
  unfold rotate at hr
  simp only [hemp, Bool.false_eq_true, if_false] at hr
  generalize s.cycle.getD _ "" = cur at hr ⊢
  dsimp only
  cases hq : currentQuery s.queries cur with
  | none =>
    rw [hq] at hr
    exact ⟨fun ⟨_, hq', _⟩ => (nomatch hq'), fun _ => rotateNext_seq hr⟩
  | some q =>
    simp only [hq] at hr
    by_cases hexp : q.exp > h
    · rw [if_pos hexp] at hr
      cases hr
      exact ⟨fun _ => ⟨rfl, rfl⟩, fun hall => absurd (hall q rfl) (Nat.not_le_of_gt hexp)⟩
    · rw [if_neg hexp] at hr
      exact ⟨fun ⟨_, hq', hexp'⟩ => absurd (Option.some.inj hq' ▸ hexp') hexp, fun _ => rotateNext_seq hr⟩

/-- **C07 (a tip on a round without reports stays with the query).** The aggregation pass does not touch a query
that has no revealed reports: its record, tip included, is still there afterwards (store keys are unique, so the
record's key is not the key of any round that has reports). -/
theorem C07_tip_carries_aggregation (s : S) (h ts : Nat) (s' : S) (q : Query) (hq : q ∈ s.queries)
    (hkey : ∀ x ∈ s.queries, x.hasRev = true → ¬ (q.qid = x.qid ∧ q.id = x.id))
    (hagg : setAggregated s h ts = some s') : q ∈ s'.queries := by
  -- the fold stays at `none` once a step fails, so every step on the way to `some s'` succeeded
  refine List.foldlRecOn (motive := fun o : Option S => ∀ st, o = some st → q ∈ st.queries) _ _
    (fun _ e => Option.some.inj e ▸ hq) (fun o ih x hx st' hst => ?_) s' hagg
  obtain ⟨hx, hrev⟩ := List.mem_filter.mp hx
  cases o with
  | none => cases hst
  | some st =>
    dsimp only at hst
    split at hst
    · obtain ⟨a, rfl⟩ := aggregateOne_some hst
      exact mem_removeQuery.mpr ⟨ih st rfl, hkey x hx hrev⟩
    · exact Option.some.inj hst ▸ ih st rfl

end Layer.Oracle
