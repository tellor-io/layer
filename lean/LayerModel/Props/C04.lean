import LayerModel.Lemmas.Escrow
import LayerModel.Lemmas.Dec

/-!
# C04 — escrow accounts always cover what the chain says it owes

Models: `Layer.Escrow.Oracle` (oracle account vs. unpaid tips), `Layer.Escrow.Tips` (tips escrow vs. selector
credits).  The dispute account's cover is part of the settlement ledger (C13); "the bridge account holds
nothing" and all four statements on the real application are checked block by block by the chain-mode family
`escrow`.
-/
namespace Layer.Escrow
open Layer

def OInv (s : Oracle) : Prop := s.bal = total s.queries

/-- **C04 (oracle account = unpaid tips, exactly).** Over every sequence of tips, round payouts, clean-ups and
query creations the oracle account holds exactly the sum of the unpaid tips of the open queries. -/
theorem C04_oracle_exact (ops : List OOp) (s : Oracle) (h : OInv s) : OInv (ops.foldl ostep s) := by
  refine List.foldlRecOn ops ostep h fun s h op _ => ?_
  unfold OInv at *
  cases op with
  | tip q a => simp [ostep, total] at *; omega
  | pay q =>
    simp only [ostep]
    have := total_split s.queries q
    omega
  | clear q =>
    simp only [ostep]
    split
    · rename_i hz
      have := total_split s.queries q
      simp only []; omega
    · exact h
  | open_ q => simp [ostep, total] at *; exact h

def TInv (s : Tips) : Prop :=
  (∀ c ∈ s.credits, 0 ≤ c.2) ∧ creditTotal s.credits ≤ s.bal * Dec.prec + s.events

def validOp : TOp → Prop
  | .pay r cs => validPay r cs
  | .withdraw _ => True

theorem tstep_inv (s : Tips) (op : TOp) (h : TInv s) (hv : validOp op) : TInv (tstep s op) := by
  obtain ⟨hnn, hcov⟩ := h
  cases op with
  | pay r cs =>
    obtain ⟨_, hcs, hsum⟩ := hv
    refine ⟨?_, ?_⟩
    · intro c hc
      simp only [tstep, List.mem_append] at hc
      rcases hc with hc | hc
      · exact hcs c hc
      · exact hnn c hc
    · simp only [tstep, creditTotal, List.map_append, List.sum_append_int] at *
      unfold Dec.prec at *; omega
  | withdraw sel =>
    have hco := creditOf_nonneg s.credits sel hnn
    obtain ⟨_, hlo, _⟩ := Dec.truncateInt_bounds hco
    have hsplit := creditTotal_split s.credits sel
    refine ⟨?_, ?_⟩
    · intro c hc
      simp only [tstep, payout, List.mem_cons] at hc
      rcases hc with rfl | hc
      · simp only []; omega
      · exact hnn c (List.mem_filter.mp hc).1
    · simp only [tstep, payout, creditTotal, List.map_cons, List.sum_cons] at *
      unfold Dec.prec at *; omega

/-- **C04 (tips escrow covers the credits).** After every sequence of reward payments (each satisfying what C09
proves about `DivvyingTips`: non-negative credits summing to the reward up to one raw unit per credit) and tip
withdrawals, the credited amounts never exceed the escrow balance by more than 10^-18 loya per credit event. -/
theorem C04_escrow_covers (ops : List TOp) (s : Tips) (h : TInv s) (hv : ∀ op ∈ ops, validOp op) :
    TInv (ops.foldl tstep s) :=
  List.foldlRecOn ops tstep h fun s hs op hop => tstep_inv s op hs (hv op hop)

/-- **C04 (no withdrawal fails for lack of funds).** As long as fewer than 10^18 credit events have happened, the
whole-loya amount `WithdrawTip` pays to any selector is covered by the escrow balance. -/
theorem C04_withdraw_never_short (s : Tips) (sel : String) (h : TInv s) (hev : (s.events : Int) < Dec.prec) :
    payout s sel ≤ s.bal := by
  obtain ⟨hnn, hcov⟩ := h
  have hco := creditOf_nonneg s.credits sel hnn
  have hle := creditOf_le_total s.credits sel hnn
  obtain ⟨_, hlo, _⟩ := Dec.truncateInt_bounds hco
  unfold payout Dec.prec at *
  omega

/-- non-vacuity: a payment of 1000 loya credited as 600.5 + 399.5, then a withdrawal -/
example : TInv (([TOp.pay 1000 [("a", 600500000000000000000), ("b", 399500000000000000000)], TOp.withdraw "a"].foldl tstep
    { bal := 0, credits := [], events := 0 })) := by
  apply C04_escrow_covers
  · exact ⟨by simp, by simp [creditTotal]⟩
  · intro op hop
    simp at hop
    rcases hop with rfl | rfl
    · refine ⟨by omega, ?_, ?_⟩
      · intro c hc; simp at hc; rcases hc with rfl | rfl <;> simp
      · simp [creditTotal, Dec.prec]
    · trivial

end Layer.Escrow
