import LayerModel.Lemmas.BridgeClaim
import LayerModel.Props.C07

/-!
# C14 — bridge deposits mint once, conditionally; withdrawals burn what they attest

Model: `Layer.BridgeClaim` (claims, batches, withdrawals).  The withdrawal value's byte layout and the query ids
are C15's (`goWithdrawValue`, `goQueryData`); "no reporter can create or influence an aggregate for a withdrawal
query" is `C07_withdrawal_never_reportable` together with the oracle model in which the only other writer of
aggregates (`aggregateOne`) consumes stored reports.
-/
namespace Layer.BridgeClaim

/-- **C14 (a claim succeeds only if …).** Success implies, in this order: the aggregate exists, is not flagged, the
id was not claimed before, a checkpoint strictly older than the aggregate exists and its threshold is at most the
aggregate's power, the aggregate is at least 12 h old at the block time, the value decodes with a valid recipient. -/
theorem C14_claim_only_if (claimed : List Nat) (x : ClaimIn) (c' : List Nat) (p : Payout)
    (h : claim claimed x = .ok (c', p)) :
    ∃ agg thr d, x.agg = some agg ∧ agg.flagged = false ∧ x.depositId ∉ claimed ∧ x.threshold = some thr ∧
      thr ≤ agg.power ∧ twelveHoursNs ≤ x.nowNs - (agg.tsMs : Int) * 1000000 ∧ x.decoded = some d ∧ d.recipientOk = true ∧
      c' = x.depositId :: claimed := by
  obtain ⟨agg, thr, d, hagg, hfl, hid, hthr, hpw, hage, hd, hrec, -, hc, -⟩ := claim_eq_ok.mp h
  exact ⟨agg, thr, d, hagg, hfl, hid, hthr, hpw, hage, hd, hrec, hc⟩

/-- **C14 (once claimed, never again).** If `id` is in the claimed set, every later claim of `id` — alone or anywhere
inside a batch — fails, in every reachable state. -/
theorem C14_no_second_claim (claimed : List Nat) (x : ClaimIn) (hid : x.depositId ∈ claimed) :
    ∀ c' p, claim claimed x ≠ .ok (c', p) :=
  fun _ _ h => (claim_ok_claimed h).1 hid

/-- a successful batch claims every id in it exactly once: ids inside one batch are pairwise distinct and new -/
theorem C14_batch_distinct : ∀ (batch : List ClaimIn) (claimed c' : List Nat) (ps : List Payout),
    claimBatch claimed batch = .ok (c', ps) →
    (batch.map (·.depositId)).Nodup ∧ ∀ x ∈ batch, x.depositId ∉ claimed :=
  fun _ _ _ _ h => (claimBatch_ok h).2

/-- **C14 (a deposit id is claimed at most once).** Once an id is in the claimed set it stays there through every
later transaction, and every later transaction that contains a claim of it — alone or inside a batch, in any
position — is rejected as a whole; a successful claim puts the id into the set.  Hence over every history the number
of successful claims of one id is at most one. -/
theorem C14_claim_once (claimed : List Nat) (id : Nat) (hid : id ∈ claimed) :
    (∀ batch : List ClaimIn, (∃ x ∈ batch, x.depositId = id) → txStep claimed batch = (claimed, [])) ∧
    (∀ batch : List ClaimIn, id ∈ (txStep claimed batch).1) := by
  constructor
  · rintro batch ⟨x, hx, rfl⟩
    unfold txStep
    cases hb : claimBatch claimed batch with
    | error e => rfl
    | ok r => exact absurd hid ((C14_batch_distinct batch claimed r.1 r.2 hb).2 x hx)
  · intro batch
    unfold txStep
    cases hb : claimBatch claimed batch with
    | error e => exact hid
    | ok r => exact (claimBatch_ok hb).1 ▸ List.mem_append_right _ hid

/-- **C14 (minted amount and split).** For every reported amount (no size bound since the fix of the `Int64()` conversion) and a
tip with `⌊tip/10^12⌋ ≤ ⌊amount/10^12⌋`, a successful claim mints exactly `⌊amount/10^12⌋`, pays `⌊tip/10^12⌋` to the
claimer and the rest to the reported recipient. -/
theorem C14_mint_amount (claimed : List Nat) (x : ClaimIn) (c' : List Nat) (p : Payout) (d : Decoded)
    (h : claim claimed x = .ok (c', p)) (hd : x.decoded = some d)
    (htip : d.tip / 1000000000000 ≤ d.amount / 1000000000000) :
    p.minted = d.amount / 1000000000000 ∧ p.toClaimer = d.tip / 1000000000000 ∧ p.toClaimer + p.toRecipient = p.minted := by
  obtain ⟨_, _, d', _, _, _, _, _, _, hd', _, _, _, rfl⟩ := claim_eq_ok.mp h
  cases hd.symm.trans hd'
  exact ⟨rfl, rfl, Nat.add_sub_cancel' htip⟩

/-- **C14 (counterexample before the fix).** `DecodeDepositReportValue` converted `⌊amount/10^12⌋` with `big.Int.Int64()`: for a
reported amount of (2^64 + 5)·10^12 the claim succeeded and minted 5. -/
theorem C14_mint_wrap_counterexample :
    claimOld [] { depositId := 1, agg := some ⟨false, 0, 10⟩, threshold := some 5, nowNs := 50000000000000,
                  decoded := some ⟨true, 18446744073709551621000000000000, 0⟩ } =
      .ok ([1], { minted := 5, toClaimer := 0, toRecipient := 5 }) := by rfl

/-- **C14 (withdrawal).** A withdrawal reduces the supply by exactly the requested amount and takes a fresh id,
one above the previous (the first is 1): ids strictly increase over any sequence of withdrawals. -/
theorem C14_withdraw (s : WSt) (amount : Nat) :
    (withdraw s amount).1.supply = s.supply - amount ∧
    (withdraw s amount).1.lastId = some (withdraw s amount).2 ∧
    (∀ i, s.lastId = some i → (withdraw s amount).2 = i + 1) ∧ (s.lastId = none → (withdraw s amount).2 = 1) := by
  unfold withdraw
  cases s.lastId <;> simp

/-- **C14 (no reporter can create an aggregate for a withdrawal query).** Restated from C07. -/
theorem C14_no_report_influence (s : Oracle.S) (h : Nat) (qid : String) (spec : Oracle.Spec) (ri : Oracle.RepIn) :
    Oracle.submit s h qid .withdraw spec ri = none := Oracle.C07_withdrawal_never_reportable s h qid spec ri

end Layer.BridgeClaim
