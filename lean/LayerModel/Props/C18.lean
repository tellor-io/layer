import LayerModel.Lemmas.Ante
import LayerModel.Gen.Formulas

/-!
# C18 — staking transactions cannot move bonded stake more than 5 % per 12-hour period

Model: `Layer.Ante.handle` (the decorator's loop), `Layer.Ante.track` (`TrackStakeChange`).
-/
namespace Layer.Ante

/-- **C18 (admission).** If the decorator lets a transaction through, then bonded stake plus the
*combined* amount of its stake-adding messages is at most `base + ⌊base/20⌋` (hence ≤ 105 % of
`base`) and bonded stake minus the *combined* amount of its undelegate messages is at least
`base − ⌊base/20⌋` (hence ≥ 95 %).  Each bound is stated for transactions that contain a message of
that kind (a transaction without stake-adding messages is not constrained from above: it adds
nothing). -/
theorem C18_admit_implies_bounds (base bonded : Int) (msgs : List Msg)
    (hadm : handle (some base) bonded msgs = true) (hpos : amountsPos msgs) :
    (hasInc msgs = true → bonded + sumInc msgs ≤ upper base) ∧
    (hasUndel msgs = true → bonded - sumUndel msgs ≥ lower base) := by
  have := loop_bounds base bonded msgs 0 0 (by simpa [handle] using hadm) hpos
  simp only [Int.add_zero] at this
  exact ⟨fun h => this.1 (Or.inl h), fun h => this.2 (Or.inl h)⟩

/-- `⌊base/20⌋ ≤ base/20` for a non-negative baseline: the integer bounds imply the 105 % / 95 %
bounds of the statement (written without division: `20·x ≤ 21·base`, `20·x ≥ 19·base`). -/
theorem C18_bounds_imply_percent (base x : Int) (hb : 0 ≤ base) :
    (x ≤ upper base → 20 * x ≤ 21 * base) ∧ (x ≥ lower base → 20 * x ≥ 19 * base) := by
  unfold upper lower
  have h1 : Int.tdiv base 20 = base / 20 := Int.tdiv_eq_ediv_of_nonneg hb
  rw [h1]
  constructor <;> intro h <;> omega

/-- **C18 (the bounds are the code's formulas).** `allowedLowerBound` / `allowedUpperBound` as
regenerated from x/reporter/ante/ante.go on every run are the model's `lower` / `upper`. -/
theorem C18_formulas : (∀ b, lower b = Layer.Gen.anteLower b) ∧ (∀ b, upper b = Layer.Gen.anteUpper b) :=
  ⟨fun _ => rfl, fun _ => rfl⟩

/-- Non-vacuity: a two-message transaction that is admitted and meets the hypotheses. -/
example : handle (some 1000) 1000 [.inc 20, .other, .undel 30, .inc 30] = true ∧
    amountsPos [.inc 20, .other, .undel 30, .inc 30] := by
  refine ⟨by decide, ?_⟩
  simp [amountsPos]

/-- **C18 (counterexample for the per-message comparison)** — the code before the `fix:` commit
admitted two delegations of 4 % each in one transaction: base 100, bonded 100, +4 and +4 gives 108 >
105. -/
theorem C18_two_delegates_counterexample :
    loopPerMsg 100 100 [.inc 4, .inc 4] = true ∧ ¬ (100 + sumInc [.inc 4, .inc 4] ≤ upper 100) := by
  decide

/-- **C18 (per-message comparison, partial).** With at most one staking message the per-message
loop and the cumulative loop coincide. -/
theorem C18_single_msg_partial (base bonded : Int) (m : Msg) :
    loopPerMsg base bonded [m] = loop base bonded 0 0 [m] := by
  cases m <;> simp [loopPerMsg, loop, msgAmount]

/-- **C18 (refresh).** The recorded amount changes only when the block time has reached the
recorded expiry, and then it becomes the bonded total of that moment with a new expiry exactly
12 h later. -/
theorem C18_refresh_only_after_expiry (tr : Tracker) (t bonded : Int) :
    (t < tr.expiry → track tr t bonded = tr) ∧
    (tr.expiry ≤ t → track tr t bonded = { amount := bonded, expiry := t + twelveHours }) := by
  unfold track
  constructor <;> intro h
  · simp [h]
  · have : ¬ t < tr.expiry := by omega
    simp [this]

/-- **C18 (baseline is the period start).** Over any sequence of blocks with non-decreasing times,
once refreshed at `t0`, the tracker keeps amount and expiry for every block time before
`t0 + 12 h`. -/
theorem C18_baseline_is_period_start (tr : Tracker) (blocks : List (Int × Int))
    (hall : ∀ b ∈ blocks, b.1 < tr.expiry) :
    blocks.foldl (fun s b => track s b.1 b.2) tr = tr :=
  List.foldlRecOn (motive := (· = tr)) blocks _ rfl fun s hs b hb => by
    subst hs; exact (C18_refresh_only_after_expiry s b.1 b.2).1 (hall b hb)

end Layer.Ante
