import LayerModel.Lemmas.Authz
import LayerModel.Lemmas.Abi
import LayerModel.Gen.AuthoritySites
import LayerModel.Gen.GovernedWrites
import LayerModel.Gen.GovernedCalls
import LayerModel.Gen.SignerFields

/-!
# C19 — privileged changes need governance; messages touch only the signer's assets

Model: `Layer.Authz`.  The theorems below cover the privileged half of the statement for every transaction sequence; the
tables regenerated from /repo on every run (handler guards, governed store writes, declared signer fields) are proved to
be exactly the ones the model assumes.  The frame half (no message reduces a non-signer's holdings outside the three
listed exceptions) is decided on the real application by the chain family `authz` (see DESIGN.md).
-/
namespace Layer.Authz

/-- **C19 (a privileged message is executed only for the governance authority).** -/
theorem C19_privileged_needs_gov (gov : String) (g : Gov) (s : String) (m : Msg) (hp : m.privileged = true)
    (hx : (step gov g s m).2 = true) : s = gov := by
  rcases step_cases gov g s m with h | ⟨rfl, g', hg', -⟩
  · rw [h] at hx; cases hx
  · rcases handle_some hg' with ⟨-, hs, -⟩ | ⟨_, rfl, -⟩ | ⟨_, _, _, rfl, -⟩ | ⟨_, rfl, -⟩
    · exact hs
    -- the three other kinds of message are not privileged
    all_goals cases hp

/-- a rejected or unprivileged step by somebody else keeps every governed component except that new spec types may be added -/
def frozen (g g' : Gov) : Prop :=
  g'.params = g.params ∧ g'.cyclelist = g.cyclelist ∧ g'.mintStarted = g.mintStarted ∧ g'.snapshotLimit = g.snapshotLimit ∧
  g'.team = g.team ∧ ∀ t v, lookup g.specs t = some v → lookup g'.specs t = some v

theorem frozen_refl (g : Gov) : frozen g g := ⟨rfl, rfl, rfl, rfl, rfl, fun _ _ h => h⟩

theorem frozen_trans {a b c : Gov} (h1 : frozen a b) (h2 : frozen b c) : frozen a c := by
  obtain ⟨p1, c1, m1, s1, t1, f1⟩ := h1
  obtain ⟨p2, c2, m2, s2, t2, f2⟩ := h2
  exact ⟨p2.trans p1, c2.trans c1, m2.trans m1, s2.trans s1, t2.trans t1, fun t v h => f2 t v (f1 t v h)⟩

theorem step_frozen (gov : String) (g : Gov) (s : String) (m : Msg) (hs : s ≠ gov) (ht : s ≠ g.team) :
    frozen g (step gov g s m).1 := by
  rcases step_cases gov g s m with h | ⟨rfl, g', hg', h⟩ <;> rw [h]
  · exact frozen_refl g
  · rcases handle_some hg' with ⟨-, hgov, -⟩ | ⟨n, rfl, -⟩ | ⟨r, t, sp, -, -, rfl⟩ | ⟨_, -, rfl⟩
    · exact absurd hgov hs
    · exact absurd rfl ht
    · exact ⟨rfl, rfl, rfl, rfl, rfl, fun _ _ h => lookup_append_of_some h _⟩
    · exact frozen_refl _

/-- **C19 (the team address changes only at the request of the current team address).** -/
theorem C19_team_only_by_team (gov : String) (g : Gov) (s : String) (m : Msg)
    (hc : (step gov g s m).1.team ≠ g.team) : s = g.team ∧ ∃ n, m = .updateTeam g.team n := by
  rcases step_cases gov g s m with h | ⟨rfl, g', hg', h⟩ <;> rw [h] at hc
  · exact absurd rfl hc
  · rcases handle_some hg' with ⟨-, -, ht⟩ | ⟨n, rfl, -⟩ | ⟨r, t, sp, -, -, rfl⟩ | ⟨_, -, rfl⟩
    · exact absurd ht hc
    · exact ⟨rfl, n, rfl⟩
    · exact absurd rfl hc
    · exact absurd rfl hc

/-- **C19 (governed state is out of reach).** Whatever transactions accounts other than the governance authority and the
team address sign — any message, any value in the authority field, any order — parameters, cycle list, the start of
minting, the snapshot limit and the team address stay as they are, and every registered data spec keeps its content
(re-registration cannot replace it). -/
theorem C19_governed_frozen (gov : String) (txs : List (String × Msg)) (g : Gov)
    (h : ∀ t ∈ txs, t.1 ≠ gov ∧ t.1 ≠ g.team) : frozen g (run gov g txs) := by
  -- the team address is among what stays, so the hypothesis keeps speaking of the current team address
  refine List.foldlRecOn (motive := frozen g) txs _ (frozen_refl g) fun g' hg' t ht => ?_
  obtain ⟨h1, h2⟩ := h t ht
  have ⟨_, _, _, _, hteam, _⟩ := hg'
  exact frozen_trans hg' (step_frozen gov g' t.1 t.2 h1 (hteam ▸ h2))

/-- **C19 (re-registration).** A `RegisterSpec` for a type that has a spec is not executed, by anybody. -/
theorem C19_register_no_replace (gov : String) (g : Gov) (s r t sp v : String) (h : lookup g.specs t = some v) :
    step gov g s (.registerSpec r t sp) = (g, false) := by
  rcases step_cases gov g s (.registerSpec r t sp) with h' | ⟨-, g', hg', -⟩
  · exact h'
  · rcases handle_some hg' with ⟨hp, -⟩ | ⟨_, hm, -⟩ | ⟨_, _, _, hm, hn, -⟩ | ⟨_, hm, -⟩
    · cases hp
    · cases hm
    · -- the handler would need the type to have no spec
      cases hm
      rw [h] at hn
      cases hn
    · cases hm

/-- hypotheses of the theorems are met by concrete non-trivial data -/
example : (step "gov" ⟨[], ["q"], [("spot", "s")], false, 5, "team"⟩ "mallory" (.updateSnapshotLimit "gov" 9)).2 = false ∧
    (step "gov" ⟨[], ["q"], [("spot", "s")], false, 5, "team"⟩ "gov" (.updateSnapshotLimit "gov" 9)).1.snapshotLimit = 9 := by decide

/-! ### the model's assumptions are the code's (tables regenerated from /repo on every run) -/

def rowsWith (tbl : List (List String)) (i : Nat) (p : String → Bool) : List (List String) :=
  tbl.filter (fun r => p (r.getD i ""))

/-- **C19 (guards).** The handlers with a leading guard are exactly: the six privileged ones (authority comparison as statement 0,
no store write before it), `UpdateTeam` (team comparison, no write before it), `RegisterSpec` (existence check, no write
before it). -/
theorem C19_guard_table :
    (rowsWith Gen.authoritySites 2 (· != "none")).map (fun r => r.drop 1) =
      [["msgServer.UpdateSnapshotLimit", "authority", "0", "0"],
       ["msgServer.UpdateTeam", "team", "4", "0"],
       ["msgServer.Init", "authority", "0", "0"],
       ["msgServer.UpdateCyclelist", "authority", "0", "0"],
       ["msgServer.UpdateParams", "authority", "0", "0"],
       ["msgServer.RegisterSpec", "notexists", "2", "0"],
       ["msgServer.UpdateDataSpec", "authority", "0", "0"],
       ["msgServer.UpdateParams", "authority", "0", "0"]] := by
  -- as a term at the top of a theorem, `rfl` is evaluated once more to see whether the theorem can serve `dsimp`
  rfl

def governedWriterFns : List String :=
  (Gen.governedWrites.map (fun r => r.getD 1 "")) ++ (Gen.governedCalls.map (fun r => r.getD 1 ""))

/-- the message-server methods allowed to write governed state (each one guarded, see `C19_guard_table`) -/
def guardedWriters : List String :=
  ["msgServer.UpdateSnapshotLimit", "msgServer.UpdateTeam", "msgServer.Init", "msgServer.UpdateCyclelist", "msgServer.UpdateParams",
   "msgServer.RegisterSpec", "msgServer.UpdateDataSpec"]

/-- genesis, begin/end-block code and the keeper helpers the guarded handlers call -/
def systemWriters : List String :=
  ["InitGenesis", "Keeper.InitGenesis", "SetPreviousBlockTime", "Keeper.GenesisCycleList", "Keeper.InitCycleListQuery",
   "Keeper.RotateQueries", "Keeper.SetParams", "Keeper.SetDataSpec", "BeginBlocker"]

/-- **C19 (who writes governed state).** Every function that writes a governed collection — directly or through one of the
writing helpers — is one of the seven guarded message handlers or genesis / block code; no other message handler does. -/
theorem C19_governed_writers :
    governedWriterFns.all (fun f => guardedWriters.contains f || systemWriters.contains f) = true ∧
    guardedWriters.all (fun f => governedWriterFns.contains f) = true ∧
    (Gen.authoritySites.filter (fun r => guardedWriters.contains (r.getD 1 ""))).all (fun r => r.getD 2 "" != "none") = true := by
  -- plain `decide` would run the same `String` comparisons a second time in the elaborator before the kernel does
  decide +kernel

/-- **C19 (declared signers).** The privileged messages declare `authority` as their signer, `UpdateTeam` the current team
address, and every message declares exactly one signer field. -/
theorem C19_signer_table :
    (Gen.signerFields.filter (fun r => r.getD 3 "" == "authority")).map (fun r => (r.getD 0 "", r.getD 1 "")) =
      [("bridge", "UpdateSnapshotLimit"), ("mint", "Init"), ("oracle", "UpdateCyclelist"), ("oracle", "UpdateParams"),
       ("registry", "UpdateDataSpec"), ("reporter", "UpdateParams")] ∧
    Abi.lookup Gen.signerFields ["dispute", "UpdateTeam", "MsgUpdateTeam"] = some "current_team_address" ∧
    Gen.signerFields.all (fun r => r.getD 4 "" == "1") = true ∧
    Gen.signerFields.length = 25 := by
  -- the expected names are short: comparing them in the kernel costs less than the elaborator's own evaluation for `rfl`
  decide +kernel

end Layer.Authz
